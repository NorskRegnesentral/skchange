import Skc.Model.Cuts
import Mathlib.Tactic.Linarith
import Mathlib.Data.List.Basic

/-! # C13 — evaluate either rejects a cuts array or scores exactly the cuts it describes

Model: `checkRow` / `checkRowLocal` / `checkCuts` (`Skc/Model/Cuts.lean`), the validation that
`evaluate` performs before any table look-up or slice.  Theorems: acceptance is *equivalent* to the
property's notion of a valid cut, and every position of an accepted cut lies in `[0, n]`, so no
prefix-sum look-up wraps around (negative index) and no slice is truncated (index past `n`). -/
namespace Skc

/-- the property's valid cut for costs / change scores / savings: `k` integer entries, first
    `≥ 0`, last `≤ n`, consecutive differences `≥ minSize` -/
def ValidRow (n minSize k : Nat) (row : List Int) : Prop :=
  row.length = k ∧ (∀ d ∈ rowDiffs row, (minSize : Int) ≤ d) ∧ ∀ c ∈ row, 0 ≤ c ∧ c ≤ (n : Int)

theorem guard_ok_iff {ε : Type} (c : Prop) [Decidable c] (e : ε) (x : Except ε Unit) :
    (if c then .error e else x) = .ok () ↔ ¬ c ∧ x = .ok () := by
  by_cases h : c <;> simp [h]

/-- **C13**: a row is accepted iff it is valid -/
theorem checkRow_ok_iff (n minSize k : Nat) (row : List Int) :
    checkRow n minSize k row = .ok () ↔ ValidRow n minSize k row := by
  simp only [checkRow, ValidRow, guard_ok_iff, not_not, and_true, List.all_eq_true,
    List.any_eq_true, decide_eq_true_eq, not_exists, not_and, not_or, not_lt]

theorem wrap64_id (d : Int) (h1 : -9223372036854775808 ≤ d) (h2 : d < 9223372036854775808) :
    wrap64 d = d := by
  rw [wrap64, Int.emod_eq_of_lt (by omega) (by omega), Int.add_sub_cancel]

theorem rowDiffsW_eq (n : Nat) (hn : (n : Int) < 9223372036854775808) : ∀ (row : List Int),
    (∀ c ∈ row, 0 ≤ c ∧ c ≤ (n : Int)) → rowDiffsW row = rowDiffs row
  | [], _ => rfl
  | [_], _ => rfl
  | a :: b :: t, h => by
    have ha := h a List.mem_cons_self
    have hb := h b (List.mem_cons_of_mem a List.mem_cons_self)
    rw [rowDiffsW, rowDiffs, wrap64_id (b - a) (by omega) (by omega),
      rowDiffsW_eq n hn (b :: t) (fun c hc => h c (List.mem_cons_of_mem a hc))]

/-- **C13, machine arithmetic**: with the differences taken in int64 arithmetic — what the code executes
    once the cuts are normalised to int64 — the accepted rows are still exactly the valid ones, for every
    `n < 2^63`: a wrapped difference can only come from an entry outside `[0, n]`, which the range test rejects -/
theorem checkRowW_ok_iff (n minSize k : Nat) (hn : (n : Int) < 9223372036854775808) (row : List Int) :
    checkRowW n minSize k row = .ok () ↔ ValidRow n minSize k row := by
  simp only [checkRowW, ValidRow, guard_ok_iff, not_not, and_true, List.all_eq_true,
    List.any_eq_true, decide_eq_true_eq, not_exists, not_and, not_or, not_lt]
  exact and_congr_right fun _ => and_congr_left fun h => by rw [rowDiffsW_eq n hn row h]

/-- why the range test must look at every entry: in int64 arithmetic the spacing test alone
    accepts the row `[126, -2^63 + 1]` (the difference wraps to a large positive number) -/
example : (rowDiffsW [126, -9223372036854775807]).all (fun d => decide ((1 : Int) ≤ d)) = true := by
  decide

/-- and why cuts of unsigned or narrow dtype are normalised first (finding #24): in 8-bit unsigned
    arithmetic `3 - 5 = 254`, so the invalid row `[5, 3]` passes the spacing test and both entries
    are in range -/
example : ((3 - 5 : Int) % 256 = 254) ∧ (1 : Int) ≤ 254 := by decide

/-- **C13**: no accepted cut indexes outside the prefix-sum tables (`n + 1` rows) or slices past
    the data: every entry is a position in `0..n` -/
theorem accepted_positions_in_range (n minSize k : Nat) (row : List Int)
    (h : checkRow n minSize k row = .ok ()) : ∀ c ∈ row, 0 ≤ c ∧ c ≤ (n : Int) :=
  ((checkRow_ok_iff n minSize k row).1 h).2.2

/-- the property's valid cut for local anomaly scores -/
def ValidRowLocal (n minSize : Nat) (row : List Int) : Prop :=
  ∃ s a b e, row = [s, a, b, e] ∧ 0 ≤ s ∧ s < a ∧ a < b ∧ b < e ∧ e ≤ (n : Int) ∧
    (minSize : Int) ≤ b - a ∧ (minSize : Int) ≤ (a - s) + (e - b)

/-- **C13, local anomaly scores**: accepted iff valid (inner interval and pooled surroundings at
    least `minSize`, strictly increasing, inside `[0, n]`) -/
theorem checkRowLocal_ok_iff (n minSize : Nat) (row : List Int) :
    checkRowLocal n minSize row = .ok () ↔ ValidRowLocal n minSize row := by
  unfold checkRowLocal ValidRowLocal
  split
  · rename_i s a b e
    simp only [guard_ok_iff, not_not, and_true]
    constructor
    · intro h
      exact ⟨s, a, b, e, rfl, by omega⟩
    · rintro ⟨s', a', b', e', h, h'⟩
      cases h
      omega
  · rename_i hne
    exact ⟨nofun, fun ⟨s, a, b, e, h, _⟩ => (hne s a b e h).elim⟩

/-- **C13, batches**: a batch is accepted iff every row is accepted (one invalid row rejects the
    whole call; nothing is evaluated silently) -/
theorem checkCuts_ok_iff (rowCheck : List Int → Except CutsErr Unit) (rows : List (List Int)) :
    checkCuts rowCheck rows = .ok () ↔ ∀ r ∈ rows, rowCheck r = .ok () := by
  induction rows with
  | nil => simp [checkCuts]
  | cons r rs ih =>
    rw [checkCuts, List.forall_mem_cons, ← ih]
    cases rowCheck r <;> simp

/-- non-vacuity and the negative cases the pinned code accepted silently -/
example : checkRow 25 1 2 [3, 9] = .ok () := by decide
example : checkRow 25 1 2 [-3, 2] = .error .range := by decide
example : checkRow 25 1 2 [20, 30] = .error .range := by decide
example : checkRow 10 1 3 [0, 4, 2] = .error .spacing := by decide
example : checkRowLocal 10 2 [0, 3, 5, 4] = .error .spacing := by decide

end Skc
