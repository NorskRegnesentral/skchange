import Skc.Lemmas.Kernels
import Skc.Lemmas.GaussCovIneq

/-! # C06 — scores derived from costs equal their defining cost differences

Closed-form level (see C01 for how the closed forms are tied to the generated code; the L1 modules
`Skc/L1/Cusum.lean`, `Skc/L1/L2Cost.lean` restate the identities on the generated definitions).
The three adapters (`ChangeScore`, `Saving`, `LocalAnomalyScore`) are compositions whose defining
equations *are* their model; they are tied to the code by exact correspondence with user-defined
integer costs.  The multivariate Gaussian cost is treated at the level of its definition from the rows
(`gcovCost`, `gcovFixed` in `Lemmas/GaussCov*.lean`; tied to the code numerically by C01): optimal ≤ fixed and
the split inequality are proved for positive definite sample covariances — otherwise the code raises. -/
namespace Skc

/-- **C06**: the squared CUSUM equals the squared-error change score `C(s,e) − C(s,k) − C(k,e)`.
    (`a`, `Sa`, `Qa`: length, sum, sum of squares after the split; `b`, `Sb`, `Qb`: before.) -/
theorem cusum_sq_is_l2_change_score (Sa Sb Qa Qb a b : ℝ) (ha : 0 < a) (hb : 0 < b) :
    (CF.cusum Sb Sa b a (a + b)) ^ 2 =
      CF.l2Optim (Sa + Sb) (Qa + Qb) (a + b) - (CF.l2Optim Sb Qb b + CF.l2Optim Sa Qa a) :=
  cusum_sq_eq_l2_change ha hb rfl rfl rfl

/-- **C06**: the L2 saving is the squared-error cost at baseline mean 0 minus the optimal one -/
theorem l2_saving_is_cost_difference (S1 S2 n : ℝ) :
    CF.l2Saving S1 n = CF.l2Fixed S1 S2 n 0 - CF.l2Optim S1 S2 n :=
  l2Saving_eq S1 S2 n

/-- **C06**: savings of the squared-error cost are non-negative -/
theorem l2_saving_nonneg (S1 n : ℝ) (hn : 0 < n) : 0 ≤ CF.l2Saving S1 n :=
  l2Saving_nonneg S1 n hn

/-- **C06**: the optimal-parameter squared-error cost never exceeds the cost at any fixed mean -/
theorem l2_optim_le_fixed (S1 S2 n μ : ℝ) (hn : 0 < n) :
    CF.l2Optim S1 S2 n ≤ CF.l2Fixed S1 S2 n μ :=
  l2Optim_le_fixed S1 S2 n μ hn

/-- **C06**: splitting an interval never increases the optimal squared-error cost; the change
    score is the exact non-negative quantity `(a b / n)(x̄_a − x̄_b)²` -/
theorem l2_split_never_increases (Sa Sb Qa Qb a b : ℝ) (ha : 0 < a) (hb : 0 < b) :
    CF.l2Optim Sa Qa a + CF.l2Optim Sb Qb b ≤ CF.l2Optim (Sa + Sb) (Qa + Qb) (a + b) ∧
    CF.l2Optim (Sa + Sb) (Qa + Qb) (a + b) - (CF.l2Optim Sa Qa a + CF.l2Optim Sb Qb b) =
      a * b / (a + b) * (Sa / a - Sb / b) ^ 2 :=
  ⟨l2Optim_split_le ha hb rfl rfl rfl, l2Optim_split_identity ha hb rfl rfl rfl⟩

/-- **C06, univariate Gaussian**: optimal ≤ fixed, for variances above the floor -/
theorem gauss_optim_le_fixed_above_floor (n σ2 v Q : ℝ) (hn : 0 < n) (hσ : 0 < σ2) (hv : 0 < v)
    (hQ : n * σ2 ≤ Q) :
    n * Real.log (2 * Real.pi * σ2) + n ≤ n * Real.log (2 * Real.pi * v) + Q / v :=
  gauss_optim_le_fixed n σ2 v Q hn hσ hv hQ

/-- **C06, univariate Gaussian**: splitting never increases the optimal cost, above the floor.
    In terms of costs: `a log(2πσ₁) + a + b log(2πσ₂) + b ≤ (a+b) log(2πσ) + (a+b)`. -/
theorem gauss_split_never_increases_above_floor (a b σ σ1 σ2 : ℝ) (ha : 0 < a) (hb : 0 < b)
    (h1 : 0 < σ1) (h2 : 0 < σ2) (hσ0 : 0 < σ) (hσ : a * σ1 + b * σ2 ≤ (a + b) * σ) :
    (a * Real.log (2 * Real.pi * σ1) + a) + (b * Real.log (2 * Real.pi * σ2) + b) ≤
      (a + b) * Real.log (2 * Real.pi * σ) + (a + b) :=
  gauss_split_le ha hb h1 h2 hσ

/-! ### The adapters (definitional in the model) -/

/-- `ChangeScore(cost)`: full minus left minus right -/
def changeScoreOf {γ : Type} [Sub γ] (C : Nat → Nat → γ) (s k e : Nat) : γ := C s e - C s k - C k e

/-- for a cost whose split inequality holds, the derived change score is non-negative -/
theorem changeScore_nonneg {γ : Type} [AddCommGroup γ] [LinearOrder γ] [IsOrderedAddMonoid γ]
    (C : Nat → Nat → γ) (s k e : Nat) (h : C s k + C k e ≤ C s e) : 0 ≤ changeScoreOf C s k e := by
  rw [changeScoreOf, sub_sub]
  exact sub_nonneg.2 h

/-! ### Multivariate Gaussian cost (definition from the rows; `x i j` = row `i`, column `j`) -/

/-- **C06, multivariate Gaussian**: the optimal-parameter cost never exceeds the cost at any fixed mean `μ`
    and positive definite covariance `Sg` — for every dimension, interval and data with a positive definite
    sample covariance (the code raises its documented error otherwise) -/
theorem gcov_optim_le_fixed {p : ℕ} (x : ℕ → Fin p → ℝ) (μ : Fin p → ℝ) (Sg : Matrix (Fin p) (Fin p) ℝ)
    (s e : ℕ) (h : s < e) (hSg : Sg.PosDef) (hS : (covMat x s e).PosDef) :
    gcovCost x s e ≤ gcovFixed x μ Sg s e :=
  gcovCost_le_gcovFixed x μ Sg s e h hSg hS

/-- **C06, multivariate Gaussian**: savings are non-negative -/
theorem gcov_saving_nonneg {p : ℕ} (x : ℕ → Fin p → ℝ) (μ : Fin p → ℝ) (Sg : Matrix (Fin p) (Fin p) ℝ)
    (s e : ℕ) (h : s < e) (hSg : Sg.PosDef) (hS : (covMat x s e).PosDef) :
    0 ≤ gcovFixed x μ Sg s e - gcovCost x s e :=
  sub_nonneg.2 (gcovCost_le_gcovFixed x μ Sg s e h hSg hS)

/-- **C06, multivariate Gaussian**: splitting an interval never increases the optimal-parameter cost, and the
    derived change score is non-negative -/
theorem gcov_split_never_increases {p : ℕ} (x : ℕ → Fin p → ℝ) (s k e : ℕ) (h1 : s < k) (h2 : k < e)
    (hS : (covMat x s e).PosDef) (hS1 : (covMat x s k).PosDef) (hS2 : (covMat x k e).PosDef) :
    gcovCost x s k + gcovCost x k e ≤ gcovCost x s e ∧ 0 ≤ gcovChange x s k e :=
  ⟨gcovCost_split_le x s k e h1 h2 hS hS1 hS2, gcovChange_nonneg x s k e h1 h2 hS hS1 hS2⟩

/-- the fixed-parameter cost is additive and, at the sample mean and covariance, equals the optimal one -/
theorem gcov_fixed_additive_and_at_mle {p : ℕ} (x : ℕ → Fin p → ℝ) (μ : Fin p → ℝ)
    (Sg : Matrix (Fin p) (Fin p) ℝ) (s k e : ℕ) (h1 : s < k) (h2 : k < e) (hS : (covMat x s e).PosDef) :
    gcovFixed x μ Sg s k + gcovFixed x μ Sg k e = gcovFixed x μ Sg s e ∧
    gcovFixed x (meanVec x s e) (covMat x s e) s e = gcovCost x s e :=
  ⟨gcovFixed_add x μ Sg s k e h1.le h2.le, gcovFixed_at_mle x s e (h1.trans h2) hS⟩

/-- non-vacuity: a concrete data set whose sample covariance is positive definite -/
example : (covMat (p := 1) (fun i _ => (i : ℝ)) 0 2).PosDef := by
  have h : covMat (p := 1) (fun i _ => (i : ℝ)) 0 2 = Matrix.diagonal (fun _ => (1/4 : ℝ)) := by
    funext j k
    rw [Subsingleton.elim j k, Matrix.diagonal_apply_eq, covMat, meanVec, Nat.Ico_zero_eq_range]
    norm_num [Finset.sum_range_succ]
  rw [h, Matrix.posDef_diagonal_iff]
  intro _; norm_num

end Skc
