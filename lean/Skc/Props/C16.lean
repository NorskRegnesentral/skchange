import Skc.Lemmas.PenH
import Skc.Lemmas.PenSpec
import Mathlib.Data.List.Nodup
import Mathlib.Data.List.Perm.Basic

/-! # C16 — MVCAPA's affected columns are the optimal sparse subset for each anomaly

Model: `findAffected` (`Skc/Model/Pen.lean`): order the columns by decreasing saving, take the
cumulative penalised sum, return the first `argmax + 1` columns.  Ties between savings are excluded
by the property (NumPy's `argsort` order among ties is unspecified); the model uses a stable sort. -/
namespace Skc
set_option linter.unusedSectionVars false

section group
variable {α : Type} [AddCommGroup α] [LinearOrder α] [IsOrderedAddMonoid α]

/-- **C16**: the affected columns of an anomaly with per-column savings `sav`
    * are the first `k+1` columns in order of decreasing saving, where `k` maximises the cumulative
      saving minus the penalty for `k+1` components (`prefVal`);
    * are non-empty, pairwise distinct valid column positions;
    * are listed in order of decreasing saving;
    * and no excluded column has a larger saving than an included one. -/
theorem affected_columns_optimal (sav : List α) (alpha : α) (betas : List α)
    (hlen : betas.length = sav.length) (hp : sav ≠ []) :
    let k := (penGeneral sav alpha betas).1
    let cols := findAffected sav alpha betas
    cols = ((orderDesc sav).take (k + 1)).map (·.1) ∧
    cols.length = k + 1 ∧ k < sav.length ∧
    (∀ k', k' < sav.length → prefVal sav alpha betas k' ≤ prefVal sav alpha betas k) ∧
    cols.Nodup ∧ (∀ c ∈ cols, c < sav.length) ∧
    (cols.map (fun c => sav.getD c 0)).Pairwise (· ≥ ·) ∧
    (∀ c ∈ cols, ∀ c', c' < sav.length → c' ∉ cols → sav.getD c' 0 ≤ sav.getD c 0) := by
  intro k cols
  obtain ⟨hk, hval, hmax⟩ := penGeneral_spec sav alpha betas hlen hp
  have hcols : cols = ((orderDesc sav).take (k + 1)).map (·.1) := rfl
  have hidx := orderDesc_idx_perm sav
  have hsorted := orderDesc_vals_sorted sav
  have hsub : cols.Sublist ((orderDesc sav).map (·.1)) := (List.take_sublist _ _).map _
  refine ⟨hcols, ?_, hk, fun k' hk' => hval ▸ hmax k' hk', hsub.nodup (hidx.nodup_iff.2 List.nodup_range),
    fun c hc => List.mem_range.1 (hidx.subset (hsub.subset hc)), ?_, ?_⟩
  · rw [hcols, List.length_map, List.length_take, orderDesc_length]
    exact Nat.min_eq_left hk
  · rw [hcols, ← topVals_eq_getD]
    exact hsorted.sublist (List.take_sublist _ _)
  · -- an excluded column sits in the dropped part of the order, below every kept entry
    intro c hc c' hc'lt hc'not
    obtain ⟨e, he, rfl⟩ := List.mem_map.1 hc
    obtain ⟨e', he', rfl⟩ := List.mem_map.1 (hidx.symm.subset (List.mem_range.2 hc'lt))
    have he'drop : e' ∈ (orderDesc sav).drop (k + 1) := by
      rw [← List.take_append_drop (k + 1) (orderDesc sav), List.mem_append] at he'
      exact he'.resolve_left fun h => hc'not (List.mem_map.2 ⟨e', h, rfl⟩)
    rw [orderDesc_entry sav e (List.mem_of_mem_take he), orderDesc_entry sav e' (List.mem_of_mem_drop he'drop)]
    exact ((List.pairwise_map).1 hsorted).rel_of_mem_take_of_mem_drop he he'drop

/-- **C16 (optimal subset)**: the savings of the affected columns are a selection of the anomaly's
    savings whose value — summed savings minus the sparse penalty for that many components minus the
    constant penalty — is the maximum over *all* non-empty selections of columns (not only over
    prefixes of the sorted order), and equals the penalised saving of the general branch. -/
theorem affected_columns_best_subset (sav : List α) (alpha : α) (betas : List α)
    (hlen : betas.length = sav.length) (hp : sav ≠ []) :
    let J := (findAffected sav alpha betas).map (fun c => sav.getD c 0)
    J.Subperm sav ∧ J ≠ [] ∧ selVal alpha betas J = (penGeneral sav alpha betas).2 ∧
      ∀ J', J'.Subperm sav → J' ≠ [] → selVal alpha betas J' ≤ selVal alpha betas J := by
  intro J
  have hJ : J = topVals sav _ := (topVals_eq_getD sav _).symm
  obtain ⟨h1, h2, h3⟩ := penGeneral_attained alpha hlen hp
  rw [hJ]
  exact ⟨h1, h2, h3, fun J' hJ' hne => h3 ▸ penGeneral_ge_subset sav alpha betas hlen J' hJ' hne⟩

end group

/-- non-vacuity: the hypotheses are satisfiable (savings 5, 1, 9 with penalties 1, 2, 3; the driver
    evaluates `findAffected [5, 1, 9] 0 [1, 2, 3] = [2, 0]` — `mergeSort` does not reduce in the
    kernel, so the value itself is checked by the correspondence, not by `decide`) -/
example : ([1, 2, 3] : List Int).length = [(5 : Int), 1, 9].length ∧ [(5 : Int), 1, 9] ≠ [] := by
  simp

end Skc
