import Skc.Model.Hist
import Mathlib.Tactic.SplitIfs
import Mathlib.Tactic.Tauto

/-! # C10 — results depend only on hyper-parameters, training data and the input  *(partial)*

Model: the abstract object heap of `Skc/Model/Hist.lean`.  Theorem: for EVERY finite history of
public calls on any number of detectors and scorers (shared scorer objects allowed), the part of the
state that a detector's results are computed from — its hyper-parameters, its remembered training
data, what its fitted attributes were computed from, and the hyper-parameters of the scorer it holds
— evolves as a function of the *relevant* calls only: `fit` / `update` / `set_params` on that
detector and `set_params` on its scorer.  `predict` / `transform_scores` on any data, calls on other
detectors (even ones sharing the scorer), scorer fits and evaluations never influence it.  Hence a
detector's outputs equal those of a fresh object that received only the relevant calls.

Partial: the theorem is about the abstract heap.  That the Python objects have no other mutable
state (caches, aliasing beyond the modelled references, sktime's clone / reset) is what the
differential histories of the harness check. -/
namespace Skc

/-- what a detector's results are computed from -/
structure DetView where
  params : Params
  scorer : Nat
  train : Option Data
  fittedOn : Option (Params × Params × Data)
  scorerParams : Params
  deriving DecidableEq

def viewOf (h : Heap) (d : Nat) : DetView :=
  let o := h.dets d
  ⟨o.params, o.scorer, o.train, o.fittedOn, (h.scorers o.scorer).params⟩

/-- the calls that may influence detector `d` holding scorer `s` -/
def relevant (d s : Nat) : Op → Bool
  | .fit d' _ => d' = d
  | .update d' _ => d' = d
  | .setParams d' _ => d' = d
  | .setScorerParams s' _ => s' = s
  | .fitRejected d' _ => d' = d
  | _ => false

/-- effect of a relevant call on the view: a function of the view and the call only -/
def viewStep (sem : Sem) (v : DetView) : Op → DetView
  | .fit _ X => { v with train := some X, fittedOn := some (v.params, v.scorerParams, X) }
  | .update _ X =>
    match v.train with
    | none => v
    | some old =>
      { v with train := some (sem.combine X old),
               fittedOn := some (v.params, v.scorerParams, sem.combine X old) }
  | .setParams _ p => { v with params := p, fittedOn := none, train := none }
  | .setScorerParams _ p => { v with scorerParams := p }
  | .fitRejected _ X => { v with train := some X, fittedOn := none }
  | _ => v

/-- replacing `fitted` of one scorer object changes no scorer's hyper-parameters: what `predict`,
    `transform_scores` and the scorer's own `fit` do to a scorer, shared or not, no view sees -/
theorem updS_fitted_params (f : Nat → ScorerObj) (s k : Nat) (x : Option Data) :
    (updS f s { f s with fitted := x } k).params = (f k).params := by
  by_cases hk : k = s
  · rw [updS, if_pos hk, hk]
  · rw [updS, if_neg hk]

/-- one step: irrelevant calls leave the view alone, relevant ones act through `viewStep` -/
theorem view_step (sem : Sem) (h : Heap) (d : Nat) (op : Op) :
    viewOf (step sem h op).1 d =
      if relevant d (h.dets d).scorer op then viewStep sem (viewOf h d) op else viewOf h d := by
  cases op with
  | fit d' X | setParams d' p | fitRejected d' X =>
    by_cases hd : d' = d
    · subst hd; simp [step, viewOf, relevant, viewStep, updD]
    · simp [step, viewOf, relevant, updD, hd, Ne.symm hd]
  | update d' X =>
    by_cases hd : d' = d
    · subst hd
      cases ht : (h.dets d').train <;> simp [step, viewOf, relevant, viewStep, updD, ht]
    · cases ht : (h.dets d').train <;> simp [step, viewOf, relevant, updD, hd, Ne.symm hd, ht]
  | predict d' X | transformScores d' X =>
    -- only `scores` of `d'` and `fitted` of its scorer change, and the view holds neither
    cases hf : (h.dets d').fittedOn with
    | none => simp [step, viewOf, relevant, hf]
    | some t =>
      by_cases hd : d = d' <;> simp [step, hf, viewOf, relevant, updD, updS_fitted_params, hd]
  | setScorerParams s' p =>
    by_cases hs : s' = (h.dets d).scorer
    · subst hs; simp [step, viewOf, relevant, viewStep, updS]
    · simp [step, viewOf, relevant, updS, hs, Ne.symm hs]
  | scorerFit s' X | scorerFitRejected s' X => simp [step, viewOf, relevant, updS_fitted_params]
  | scorerEval s' cuts => cases hf : (h.scorers s').fitted <;> simp [step, viewOf, relevant, hf]
  | updateRejected d' X => simp [step, relevant]

def heapAfter (sem : Sem) : Heap → List Op → Heap
  | h, [] => h
  | h, op :: rest => heapAfter sem (step sem h op).1 rest

/-- the scorer a detector holds never changes -/
theorem scorer_const (sem : Sem) (h : Heap) (d : Nat) (op : Op) :
    ((step sem h op).1.dets d).scorer = (h.dets d).scorer := by
  have hv : ∀ v, (viewStep sem v op).scorer = v.scorer := fun v => by
    cases op with
    | update _ _ =>
      obtain ⟨_, _, train, _, _⟩ := v
      cases train <;> rfl
    | _ => rfl
  have := congrArg DetView.scorer (view_step sem h d op)
  rwa [apply_ite DetView.scorer, hv, ite_self] at this

/-- **C10 (model level)**: after ANY history the view of detector `d` is the fold of `viewStep`
    over the relevant calls only. -/
theorem view_after_history (sem : Sem) (d : Nat) : ∀ (ops : List Op) (h : Heap),
    viewOf (heapAfter sem h ops) d =
      (ops.filter (relevant d (h.dets d).scorer)).foldl (viewStep sem) (viewOf h d) := by
  intro ops h
  induction ops generalizing h with
  | nil => rfl
  | cons op rest ih =>
    rw [heapAfter, ih (step sem h op).1, scorer_const, view_step, List.filter_cons]
    split_ifs <;> rfl

/-- what `predict` and `transform_scores` return is a function of the view -/
theorem outputs_of_view (sem : Sem) (h : Heap) (d : Nat) (X : Data) :
    (step sem h (.predict d X)).2 = (viewOf h d).fittedOn.map
      (fun t => sem.detect t.1 t.2.1 (viewOf h d).scorerParams t.2.2 X) ∧
    (step sem h (.transformScores d X)).2 = (viewOf h d).fittedOn.map
      (fun t => sem.score t.1 t.2.1 (viewOf h d).scorerParams t.2.2 X) := by
  simp only [step, viewOf]
  cases (h.dets d).fittedOn <;> exact ⟨rfl, rfl⟩

/-- **C10**: two histories with the same relevant calls leave detector `d` in the same view, so
    every later `predict` / `transform_scores` returns the same value — earlier predicts, fits of
    other detectors, shared scorers, scorer evaluations do not matter. -/
theorem outputs_depend_on_relevant_calls_only (sem : Sem) (d : Nat) (h : Heap) (ops₁ ops₂ : List Op)
    (hrel : ops₁.filter (relevant d (h.dets d).scorer) = ops₂.filter (relevant d (h.dets d).scorer))
    (X : Data) :
    (step sem (heapAfter sem h ops₁) (.predict d X)).2 =
      (step sem (heapAfter sem h ops₂) (.predict d X)).2 ∧
    (step sem (heapAfter sem h ops₁) (.transformScores d X)).2 =
      (step sem (heapAfter sem h ops₂) (.transformScores d X)).2 := by
  have hv : viewOf (heapAfter sem h ops₁) d = viewOf (heapAfter sem h ops₂) d := by
    rw [view_after_history, view_after_history, hrel]
  simp only [outputs_of_view, hv, and_self]

/-- **C10, update**: `fit(old)` followed by `update(new)` leaves the same view as one `fit` on the
    combined data. -/
theorem update_is_fit_on_combined (sem : Sem) (v : DetView) (old new : Data) :
    viewStep sem (viewStep sem v (.fit 0 old)) (.update 0 new) =
      viewStep sem v (.fit 0 (sem.combine new old)) :=
  rfl

/-! ### calls that raise -/

/-- **C10, exception safety (model level)**: after a `fit` that raised, the detector does not answer from an
    earlier fit: `predict` and `transform_scores` raise "not fitted" until the next successful `fit` -/
theorem rejected_fit_leaves_not_fitted (sem : Sem) (h : Heap) (d : Nat) (X Y : Data) :
    (step sem (step sem h (.fitRejected d X)).1 (.predict d Y)).2 = none ∧
    (step sem (step sem h (.fitRejected d X)).1 (.transformScores d Y)).2 = none := by
  simp [step, updD]

/-- … and a later successful `fit` makes the rejected one invisible -/
theorem fit_after_rejected_fit (sem : Sem) (v : DetView) (X Y : Data) :
    viewStep sem (viewStep sem v (.fitRejected 0 X)) (.fit 0 Y) = viewStep sem v (.fit 0 Y) :=
  rfl

/-- **C10, exception safety**: an `update` whose batch is rejected changes nothing — the histories with and
    without it are indistinguishable, in particular the next valid `update` gives the fit on the old and the
    new data combined -/
theorem rejected_update_is_invisible (sem : Sem) (h : Heap) (d : Nat) (X : Data) (ops : List Op) :
    runHist sem (step sem h (.updateRejected d X)).1 ops = runHist sem h ops :=
  rfl

/-- a scorer whose `fit` raised does not evaluate from an earlier fit -/
theorem rejected_scorer_fit_leaves_not_fitted (sem : Sem) (h : Heap) (s : Nat) (X : Data) (cuts : Nat) :
    (step sem (step sem h (.scorerFitRejected s X)).1 (.scorerEval s cuts)).2 = none := by
  simp [step, updS]

end Skc
