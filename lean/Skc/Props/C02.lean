import Skc.Lemmas.PeltSpec
import Skc.Lemmas.Tables
import Skc.Lemmas.Congr
import Skc.Lemmas.GaussCovIneq

/-! # C02 — PELT returns an exact minimiser of the penalised segmentation cost

Model: `Skc.runPelt` (`Skc/Model/Pelt.lean`), a line-by-line functional transcription of
`run_pelt` + `get_changepoints`; `runPeltCode` is the instance that mirrors the code in `/repo`
(first-minimiser `argmin`, strict pruning test, pruning decisions applied `m - 1` iterations later).
The correspondence check (`harness/props/c02.py`) ties that instance to the implementation.

The theorems hold for every totally ordered additive group `α` (ℤ, ℚ, ℝ, …), every cost table,
every penalty (no sign condition is needed), every `m ≥ 1`, `n ≥ 2m` — no bound on sizes — and for
the whole *policy family*: any selector returning a minimiser, any sound pruning test, any pruning
delay `≥ m - 1`. -/
namespace Skc
set_option linter.unusedSectionVars false

section group
variable {α : Type} [AddCommGroup α] [LinearOrder α] [IsOrderedAddMonoid α]

/-- **C02 (a,c)**: the returned changepoints form an admissible segmentation whose penalised cost
    is the reported final score, and no admissible segmentation is cheaper. -/
theorem pelt_optimal (pick : (Nat → α) → List Nat → Nat) (pr : α → α → Bool)
    (hpick : SoundPick pick) (hpr : SoundPrune pr)
    (cost : Nat → Nat → α) (pen : α) (m delay n : Nat)
    (hm : 1 ≤ m) (hd : m ≤ delay + 1) (hn : 2 * m ≤ n)
    (hsplit : SplitIneq cost m n) :
    let r := runPelt pick pr cost pen m delay n
    ValidFrom m 0 r.2 n ∧ segCost cost pen 0 r.2 n = r.1 n ∧
      ∀ cps, ValidFrom m 0 cps n → r.1 n ≤ segCost cost pen 0 cps n := by
  obtain ⟨cps, hb, hv, hc, hmin⟩ := (pelt_backtrack hpick hpr hm hd hn hsplit).2 n
    ((Nat.le_mul_of_pos_left m Nat.two_pos).trans hn) (le_refl n)
  have hr2 : (runPelt pick pr cost pen m delay n).2 = cps := congrArg (List.drop 1) hb
  exact ⟨hr2 ▸ hv, hr2 ▸ hc, hmin⟩

/-- **C02 (b)**: every reported prefix score (`scores[e-1] = opt e`, `m ≤ e ≤ n`) is the optimal
    penalised cost of that prefix: attained by some admissible segmentation, and a lower bound
    for all of them. -/
theorem pelt_prefix_optimal (pick : (Nat → α) → List Nat → Nat) (pr : α → α → Bool)
    (hpick : SoundPick pick) (hpr : SoundPrune pr)
    (cost : Nat → Nat → α) (pen : α) (m delay n : Nat)
    (hm : 1 ≤ m) (hd : m ≤ delay + 1) (hn : 2 * m ≤ n)
    (hsplit : SplitIneq cost m n)
    (e : Nat) (hme : m ≤ e) (hen : e ≤ n) :
    (∃ cps, ValidFrom m 0 cps e ∧
        segCost cost pen 0 cps e = (runPelt pick pr cost pen m delay n).1 e) ∧
      ∀ cps, ValidFrom m 0 cps e →
        (runPelt pick pr cost pen m delay n).1 e ≤ segCost cost pen 0 cps e := by
  obtain ⟨cps, _, hv, hc, hmin⟩ := (pelt_backtrack hpick hpr hm hd hn hsplit).2 e hme hen
  exact ⟨⟨cps, hv, hc⟩, hmin⟩

/-- C02 for the instance that mirrors the code in `/repo` (`delay = m - 1`). -/
theorem peltCode_optimal (cost : Nat → Nat → α) (pen : α) (m n : Nat)
    (hm : 1 ≤ m) (hn : 2 * m ≤ n) (hsplit : SplitIneq cost m n) :
    let r := runPeltCode cost pen m n
    ValidFrom m 0 r.2 n ∧ segCost cost pen 0 r.2 n = r.1 n ∧
      ∀ cps, ValidFrom m 0 cps n → r.1 n ≤ segCost cost pen 0 cps n :=
  pelt_optimal argminL prStrict soundPick_argminL soundPrune_strict cost pen m (m - 1) n hm
    le_tsub_add hn hsplit

theorem peltCode_prefix_optimal (cost : Nat → Nat → α) (pen : α) (m n : Nat)
    (hm : 1 ≤ m) (hn : 2 * m ≤ n) (hsplit : SplitIneq cost m n)
    (e : Nat) (hme : m ≤ e) (hen : e ≤ n) :
    (∃ cps, ValidFrom m 0 cps e ∧ segCost cost pen 0 cps e = (runPeltCode cost pen m n).1 e) ∧
      ∀ cps, ValidFrom m 0 cps e → (runPeltCode cost pen m n).1 e ≤ segCost cost pen 0 cps e :=
  pelt_prefix_optimal argminL prStrict soundPick_argminL soundPrune_strict cost pen m (m - 1) n hm
    le_tsub_add hn hsplit e hme hen

end group

/-! ### Non-vacuity: a concrete non-trivial instance meets the hypotheses -/

/-- a super-additive integer table cost: the squared segment length -/
def exCost (s e : Nat) : Int := ((e : Int) - s) * ((e : Int) - s)

example : SplitIneq exCost 2 8 := by
  intro s t e hadm hte _
  have ha : (0 : Int) ≤ (t : Int) - s := Int.sub_nonneg_of_le (Int.ofNat_le.2 hadm.le)
  have hb : (0 : Int) ≤ (e : Int) - t := Int.sub_nonneg_of_le (Int.ofNat_le.2 (Nat.le_of_add_right_le hte))
  unfold exCost
  rw [show ((e : Int) - s) * (e - s) = (t - s) * (t - s) + (e - t) * (e - t) + 2 * ((t - s) * (e - t)) by ring]
  exact le_add_of_nonneg_right (mul_nonneg zero_le_two (mul_nonneg ha hb))

/-- on this instance PELT places three changepoints and the reported optimum is 19 -/
example : (runPeltCode exCost 1 2 8).2 = [2, 4, 6] ∧ (runPeltCode exCost 1 2 8).1 8 = 19 := by
  decide +kernel

/-! ### composed down to the data: PELT with the squared-error cost -/

/-- sum of the residual sums of squares of the segments of `[s, e)` cut at `cps`, plus the penalty
    per changepoint — the objective of the property, written on the rows -/
noncomputable def rssObjective (x : ℕ → ℝ) (pen : ℝ) (cps : List Nat) (n : Nat) : ℝ :=
  segCost (fun s e => rss x (segMean x s e) s e) pen 0 cps n

/-- **C02, squared-error cost, from the rows**: with the cost table the code builds from prefix sums,
    the reported changepoints are admissible, their penalised residual sum of squares is the final
    score, and no admissible segmentation has a smaller one.  (`SplitIneq` is discharged by
    `l2Table_split`; table entries are residual sums of squares by `l2Table_eq_rss`, C01.) -/
theorem pelt_l2_exact (x : ℕ → ℝ) (pen : ℝ) (m n : ℕ) (hm : 1 ≤ m) (hn : 2 * m ≤ n) :
    let r := runPeltCode (l2Table x) pen m n
    ValidFrom m 0 r.2 n ∧ rssObjective x pen r.2 n = r.1 n ∧
      ∀ cps, ValidFrom m 0 cps n → r.1 n ≤ rssObjective x pen cps n := by
  intro r
  obtain ⟨h1, h2, h3⟩ := peltCode_optimal (l2Table x) pen m n hm hn (l2Table_split x m n hm)
  have hc : ∀ cps, ValidFrom m 0 cps n → segCost (l2Table x) pen 0 cps n = rssObjective x pen cps n :=
    fun cps hv => segCost_congr_valid _ _ pen m hm (fun a b hab => l2Table_eq_rss x a b hab) cps 0 n hv
  refine ⟨h1, ?_, ?_⟩
  · rw [← hc _ h1]; exact h2
  · intro cps hv
    rw [← hc cps hv]; exact h3 cps hv

/-! ### composed down to the data: PELT with the univariate Gaussian cost -/

/-- **C02, univariate Gaussian cost, from the rows**: with the cost table the code builds from prefix sums
    (`gaussTable`: `n log(2π max(var, 1e-16)) + n`), and every interval of at least `m` rows inside `[0, n]`
    having an empirical variance at or above the floor, the reported segmentation is admissible, its
    penalised cost is the final score, and no admissible segmentation costs less.  (`SplitIneq` is
    discharged by `gaussTable_split`; at the floor the split inequality can fail, which is why the
    property restricts the claim for this cost.) -/
theorem pelt_gauss_exact (x : ℕ → ℝ) (pen : ℝ) (m n : ℕ) (hm : 1 ≤ m) (hn : 2 * m ≤ n)
    (habove : ∀ s e, s + m ≤ e → e ≤ n → varFloorConst ≤ segVar x s e) :
    let r := runPeltCode (gaussTable x) pen m n
    ValidFrom m 0 r.2 n ∧ segCost (gaussTable x) pen 0 r.2 n = r.1 n ∧
      ∀ cps, ValidFrom m 0 cps n → r.1 n ≤ segCost (gaussTable x) pen 0 cps n :=
  peltCode_optimal (gaussTable x) pen m n hm hn (gaussTable_split x m n hm habove)

/-! ### composed down to the data: PELT with the multivariate Gaussian cost -/

/-- **C02, multivariate Gaussian cost, from the rows**: when every interval of at least `m` rows inside
    `[0, n]` has a positive definite sample covariance (otherwise the code raises its documented error),
    PELT run on the cost defined from the rows (`gcovCost`: `np.cov` / `slogdet` in the code, tied
    numerically by C01) returns an admissible segmentation whose penalised cost is the final score, and no
    admissible segmentation has a smaller one.  `SplitIneq` is discharged by `gcovCost_split_le`
    (Lemmas/GaussCovIneq.lean). -/
theorem pelt_gcov_exact {p : ℕ} (x : ℕ → Fin p → ℝ) (pen : ℝ) (m n : ℕ) (hm : 1 ≤ m) (hn : 2 * m ≤ n)
    (hpd : ∀ s e, s + m ≤ e → e ≤ n → (covMat x s e).PosDef) :
    let r := runPeltCode (gcovCost x) pen m n
    ValidFrom m 0 r.2 n ∧ segCost (gcovCost x) pen 0 r.2 n = r.1 n ∧
      ∀ cps, ValidFrom m 0 cps n → r.1 n ≤ segCost (gcovCost x) pen 0 cps n := by
  apply peltCode_optimal (gcovCost x) pen m n hm hn
  intro s t e hadm hte hen
  have hst := hadm.add_le
  have hte' : t ≤ e := Nat.le_of_add_right_le hte
  exact gcovCost_split_le x s t e (hadm.lt hm) (lt_of_add_le hm hte) (hpd s e (hst.trans hte') hen)
    (hpd s t hst (hte'.trans hen)) (hpd t e hte hen)

/-! ### Negative result: the pinned upstream pruning (`delay = 0`) is not exact for `m = 3` -/

def witnessTbl : List (List Int) :=
  [[0, 3, 5, 9, 11, 20, 27, 34, 43], [0, 0, 0, 5, 6, 15, 23, 31, 39],
   [0, 0, 0, 2, 6, 11, 15, 26, 34], [0, 0, 0, 0, 0, 5, 11, 16, 27],
   [0, 0, 0, 0, 0, 1, 9, 16, 22], [0, 0, 0, 0, 0, 0, 3, 9, 15], [0, 0, 0, 0, 0, 0, 0, 5, 9],
   [0, 0, 0, 0, 0, 0, 0, 0, 1], [0, 0, 0, 0, 0, 0, 0, 0, 0]]
def witnessCost (s e : Nat) : Int := (witnessTbl.getD s []).getD e 0

/-- with pruning decisions applied immediately (the code before the `fix:` commit) the model
    reports 35 although the segmentation `[4]` costs 33: the hypothesis `m ≤ delay + 1` of
    `pelt_optimal` cannot be dropped. -/
theorem pinned_pelt_not_exact :
    ¬ (∀ cps, ValidFrom 3 0 cps 8 →
        (runPelt argminL prStrict witnessCost 0 3 0 8).1 8 ≤ segCost witnessCost 0 0 cps 8) := by
  intro h
  have := h [4] (by simp [ValidFrom])
  revert this
  decide +kernel

/-- the witness table satisfies the split inequality, so it is the delay that matters -/
theorem witness_split : ∀ s ∈ List.range 9, ∀ t ∈ List.range 9, ∀ e ∈ List.range 9,
    s < t → t < e → witnessCost s t + witnessCost t e ≤ witnessCost s e := by
  decide +kernel

/-- and the repaired delay gives the optimum on the same table -/
example : (runPeltCode witnessCost 0 3 8).1 8 = 33 ∧ (runPeltCode witnessCost 0 3 8).2 = [4] := by
  decide +kernel

end Skc
