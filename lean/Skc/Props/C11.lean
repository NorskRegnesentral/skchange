import Skc.Model.Frame
import Mathlib.Data.List.Basic

/-! # C11 — outputs do not depend on how the same numbers are passed in  *(partial)*

Model: `Skc/Model/Frame.lean`.  The theorems are parametricity statements about the conversion
logic: detection is a function of the value matrix, which does not depend on index labels, column
labels or the container; dense outputs carry the input's own index and their values do not depend
on the labels.  pandas and NumPy themselves are not modelled — this property is decided mainly by
the differential run over containers / dtypes / indexes / entry points in the harness. -/
namespace Skc
variable {ι κ ι' κ' ο : Type}

/-- relabelling index and columns does not change the values detection sees -/
theorem values_relabel (f : ι → ι') (g : κ → κ') (x : Input ι κ) :
    (x.relabel f g).values = x.values := by
  cases x <;> rfl

/-- **C11**: integer locations, labels and scores are the same whatever index and column labels
    the input carries -/
theorem sparse_relabel_invariant (detect : List (List Rat) → ο) (f : ι → ι') (g : κ → κ')
    (x : Input ι κ) : detectSparse detect (x.relabel f g) = detectSparse detect x := by
  unfold detectSparse; rw [values_relabel]

/-- **C11**: a univariate column gives the same result as array, 1-D array, Series or DataFrame -/
theorem container_invariant (detect : List (List Rat) → ο) (idx : List ι) (c : κ)
    (col : List Rat) :
    detectSparse detect (.array1d col : Input ι κ) =
      detectSparse detect (.series idx col : Input ι κ) ∧
    detectSparse detect (.series idx col : Input ι κ) =
      detectSparse detect (.frame idx [c] (col.map (fun x => [x])) : Input ι κ) ∧
    detectSparse detect (.frame idx [c] (col.map (fun x => [x])) : Input ι κ) =
      detectSparse detect (.array2d (col.map (fun x => [x])) : Input ι κ) := by
  refine ⟨rfl, rfl, rfl⟩

/-- **C11**: dense outputs carry the input's own index (relabelled inputs give relabelled
    indexes) and the same label values -/
theorem dense_relabel (dense : List (List Rat) → List Nat) (f : ι → ι') (g : κ → κ')
    (x : Input ι κ) :
    (detectDense dense (x.relabel f g)).map (·.2) = (detectDense dense x).map (·.2) ∧
    (x.relabel f g).index = x.index.map (Sum.map f id) := by
  have hidx : (x.relabel f g).index = x.index.map (Sum.map f id) := by
    cases x <;> simp [Input.relabel, Input.index, List.map_map, Function.comp_def]
  refine ⟨?_, hidx⟩
  -- relabelling the index maps the first component of each pair and leaves the second alone
  rw [detectDense, detectDense, values_relabel, hidx, List.zip_map_left, List.map_map]
  rfl

end Skc
