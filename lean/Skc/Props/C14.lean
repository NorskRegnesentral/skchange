import Skc.Model.Config
import Skc.Lemmas.Sbs
import Skc.Lemmas.SeededGrid
import Mathlib.Tactic.Linarith
import Mathlib.Tactic.NormNum

/-! # C14 — documented-valid configurations always run; invalid ones fail with ValueError

`*.ctorOk` / `*.fitOk` (`Skc/Model/Config.lean`) transcribe the checks the code performs; the
`Documented*` predicates below transcribe the documented domains (docstrings and the property text).
The theorems say the two coincide, and that on the documented domain the algorithm models are total
(no empty `argmax`, no empty interval list).  The remaining algorithm models (`runPelt`, `runCapa`,
`runCbs`, `mwScores`/`mwCpts`) are total functions by construction; that the Python code raises
nothing else on valid configurations is what the boundary-grid correspondence checks. -/
namespace Skc

/-- `check_larger_than` with `allow_none=True`: `None` passes, a number must be `≥ lo` -/
theorem geOpt_true_iff (lo : Rat) (v : Option Rat) :
    geOpt lo v true = true ↔ ∀ s, v = some s → lo ≤ s := by
  cases v <;> simp [geOpt]

/-- … and with `allow_none=False`: a number `≥ lo` is required -/
theorem geOpt_false_iff (lo : Rat) (v : Option Rat) :
    geOpt lo v false = true ↔ ∃ s, v = some s ∧ lo ≤ s := by
  cases v <;> simp [geOpt]

def DocumentedPelt (c : PeltCfg) : Prop :=
  (∀ s, c.penaltyScale = some s → 0 ≤ s) ∧ 1 ≤ c.minSeg
theorem pelt_ctor_iff (c : PeltCfg) : c.ctorOk = true ↔ DocumentedPelt c := by
  simp only [PeltCfg.ctorOk, DocumentedPelt, Bool.and_eq_true, decide_eq_true_eq, geOpt_true_iff]

def DocumentedMw (c : MwCfg) : Prop :=
  1 ≤ c.bandwidth ∧ (∀ s, c.thresholdScale = some s → 0 ≤ s) ∧ 0 ≤ c.level ∧
    1 ≤ c.minDetInt ∧ c.minDetInt ≤ max 1 (c.bandwidth / 2)
theorem mw_ctor_iff (c : MwCfg) : c.ctorOk = true ↔ DocumentedMw c := by
  simp only [MwCfg.ctorOk, DocumentedMw, Bool.and_eq_true, decide_eq_true_eq, geOpt_true_iff,
    and_assoc]

/-- threshold scale `≥ 0` or tuned, level in `(0,1)`, `min_segment_length ≥ 1`,
    `max_interval_length ≥ 2·min_segment_length`, growth factor in `(1, 2]` -/
def DocumentedBinseg (c : BinsegCfg) : Prop :=
  (∀ s, c.thresholdScale = some s → 0 ≤ s) ∧ (0 < c.level ∧ c.level < 1) ∧ 1 ≤ c.minSeg ∧
    2 * c.minSeg ≤ c.maxInterval ∧ (1 < c.growth ∧ c.growth ≤ 2)
theorem binseg_ctor_iff (c : BinsegCfg) : c.ctorOk = true ↔ DocumentedBinseg c := by
  simp only [BinsegCfg.ctorOk, DocumentedBinseg, Bool.and_eq_true, decide_eq_true_eq,
    geOpt_true_iff, and_assoc]

def DocumentedCapa (c : CapaCfg) : Prop :=
  (∃ s, c.collScale = some s ∧ 0 ≤ s) ∧ (∃ s, c.pointScale = some s ∧ 0 ≤ s) ∧
    2 ≤ c.minSeg ∧ c.minSeg ≤ c.maxSeg
theorem capa_ctor_iff (c : CapaCfg) : c.ctorOk = true ↔ DocumentedCapa c := by
  simp only [CapaCfg.ctorOk, DocumentedCapa, Bool.and_eq_true, decide_eq_true_eq,
    geOpt_false_iff, and_assoc]

theorem stat_ctor_iff (c : StatCfg) : c.ctorOk = true ↔ c.lower ≤ c.upper := by
  simp [StatCfg.ctorOk]

/-- `fit` accepts exactly data without missing values that are at least the documented minimum
    length (`2·min_segment_length`, `2·bandwidth`, or `min_segment_length` for CAPA/MVCAPA) -/
theorem binseg_fit_iff (c : BinsegCfg) (n : Nat) (nan : Bool) :
    c.fitOk n nan = true ↔ nan = false ∧ 2 * c.minSeg ≤ (n : Rat) := by
  simp only [BinsegCfg.fitOk, Bool.and_eq_true, Bool.not_eq_true', decide_eq_true_eq]
theorem mw_fit_iff (c : MwCfg) (n : Nat) (nan : Bool) :
    c.fitOk n nan = true ↔ nan = false ∧ 2 * c.bandwidth ≤ (n : Rat) := by
  simp only [MwCfg.fitOk, Bool.and_eq_true, Bool.not_eq_true', decide_eq_true_eq]
theorem capa_fit_iff (c : CapaCfg) (n : Nat) (nan : Bool) :
    c.fitOk n nan = true ↔ nan = false ∧ c.minSeg ≤ (n : Rat) := by
  simp only [CapaCfg.fitOk, Bool.and_eq_true, Bool.not_eq_true', decide_eq_true_eq]
theorem pelt_fit_iff (c : PeltCfg) (n : Nat) (nan : Bool) :
    c.fitOk n nan = true ↔ nan = false ∧ 2 * c.minSeg ≤ (n : Rat) ∧ c.penaltyScale.isSome = true := by
  simp only [PeltCfg.fitOk, Bool.and_eq_true, Bool.not_eq_true', decide_eq_true_eq, and_assoc]

/-! ### totality of seeded binary segmentation on the documented domain -/

theorem mapOpt_ne_none {β γ : Type} (f : β → Option γ) : ∀ (l : List β),
    (∀ b ∈ l, f b ≠ none) → mapOpt f l ≠ none := by
  intro l h
  induction l with
  | nil => exact Option.some_ne_none _
  | cons b l ih =>
    have hl := ih fun x hx => h x (List.mem_cons_of_mem b hx)
    rw [mapOpt]
    cases h1 : f b with
    | none => exact absurd h1 (h b List.mem_cons_self)
    | some c =>
      cases h2 : mapOpt f l with
      | none => exact absurd h2 hl
      | some cs => exact Option.some_ne_none _

/-- **C14, boundary settings**: for every admissible schedule (in particular
    `max_interval_length = 2·min_segment_length` and `n = 2·min_segment_length`) the candidate list
    is non-empty and seeded binary segmentation evaluates every interval — the `argmax` over
    admissible splits is never taken over an empty sequence. -/
theorem sbs_runs_on_valid_config {α : Type} [LinearOrder α] [Zero α]
    (cs : Nat → Nat → Nat → α) (m n maxLen : Nat) (thr : α) (sched : List (Nat × Nat))
    (hm : 1 ≤ m) (hs : AdmissibleSchedule n (2 * m) maxLen sched) :
    seededFrom n (2 * m) sched ≠ [] ∧ runSbs cs m thr (seededFrom n (2 * m) sched) ≠ none := by
  obtain ⟨hne, hall⟩ := seededFrom_spec n (2 * m) maxLen sched (by omega) hs
  refine ⟨hne, ?_⟩
  unfold runSbs
  split
  · rename_i h
    exact absurd h (mapOpt_ne_none _ _ fun iv hiv hnone =>
      Nat.not_le_of_lt ((amoc_spec cs m iv).1.1 hnone) (hall iv hiv).2.1)
  · exact Option.some_ne_none _

/-- **C14, growth factor close to 1 (repair of finding #27)**: the repaired `make_seeded_intervals` returns
    all integer lengths `min..max` directly when the geometric grid it would otherwise build has
    `N = n_lengths − 1 ≥ (2·max+1)·log(max/min)` steps.  That is what rounding the grid would give: every
    integer length in `[min, max]` lies *strictly* within 1/2 of a grid point `min·r^k`, `r = (max/min)^(1/N)`
    (so it is produced under any rounding mode), and rounding a point of `[min, max]` cannot leave
    `[min, max]`.  Hence every documented growth factor in (1, 2] — however close to 1 — runs without the
    astronomically large grid, with the same candidate lengths. -/
theorem seeded_lengths_fast_path_exact (mn mx N : ℕ) (hmn : 0 < mn) (hlt : mn < mx)
    (hN : (2 * (mx : ℝ) + 1) * Real.log ((mx : ℝ) / mn) ≤ N) (len : ℕ) (h1 : mn ≤ len) (h2 : len ≤ mx) :
    ∃ k, k ≤ N ∧ |(mn : ℝ) * Real.exp (Real.log ((mx : ℝ) / mn) / N) ^ k - len| < 1 / 2 :=
  geom_grid_hits (Nat.cast_pos.2 hmn) (Nat.cast_lt.2 hlt) hN (Nat.cast_le.2 h1) (Nat.cast_le.2 h2)

/-- non-vacuity of the hypothesis: `min = 2`, `max = 3`, `N = 4` steps (`7·log 1.5 ≈ 2.84 ≤ 4`) -/
example : (2 * ((3 : ℕ) : ℝ) + 1) * Real.log (((3 : ℕ) : ℝ) / (2 : ℕ)) ≤ (4 : ℕ) := by
  have h : Real.log ((3 : ℝ) / 2) ≤ 3 / 2 - 1 := Real.log_le_sub_one_of_pos (by norm_num)
  push_cast
  exact (mul_le_mul_of_nonneg_left h (by norm_num)).trans (by norm_num)

/-- non-vacuity: boundary configurations inside and outside the documented domain -/
example : DocumentedBinseg ⟨some 0, 1 / 100, 1, 2, 2⟩ := by
  unfold DocumentedBinseg; norm_num
example : ¬ DocumentedBinseg ⟨some 0, 1 / 100, 5, 9, 3 / 2⟩ := by
  unfold DocumentedBinseg; norm_num
example : DocumentedMw ⟨4, none, 1 / 100, 2⟩ := by
  unfold DocumentedMw; refine ⟨by norm_num, by simp, by norm_num, by norm_num, by norm_num⟩

end Skc
