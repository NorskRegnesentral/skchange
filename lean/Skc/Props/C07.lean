import Skc.Lemmas.GreedyGen
import Skc.Lemmas.Sbs

/-! # C07 — seeded binary segmentation reports exactly the greedy above-threshold splits

Models: `seededFrom` (interval layout of `make_seeded_intervals` for a given (length, step)
schedule), `amoc` (per-interval first argmax over admissible splits), `greedyGen`/`greedyPicks`
(`greedy_changepoint_selection`), `runSbs` — `Skc/Model/Det.lean`, `Skc/Model/Greedy.lean`. -/
namespace Skc

/-- **C07, candidate intervals**: for every admissible schedule (each length between the minimum
    `2·min_segment_length` and `min(max_interval_length, n)`, each step ≥ 1) the candidate
    intervals exist, lie inside `[0, n]` and have lengths in `[minLen, min(maxLen, n)]`.
    (That the float-computed schedule of the code is admissible is checked exhaustively on a grid by
    the correspondence, not proved.) -/
theorem seeded_intervals_wellformed (n minLen maxLen : Nat) (sched : List (Nat × Nat))
    (h1 : 1 ≤ minLen) (hs : AdmissibleSchedule n minLen maxLen sched) :
    seededFrom n minLen sched ≠ [] ∧
    ∀ iv ∈ seededFrom n minLen sched,
      iv.2 ≤ n ∧ iv.1 + minLen ≤ iv.2 ∧ iv.2 ≤ iv.1 + min maxLen n :=
  seededFrom_spec n minLen maxLen sched h1 hs

/-- **C07, threshold monotonicity**: raising the threshold can only remove changepoints — the
    picks for the higher threshold are a prefix of the picks for the lower one. -/
theorem sbs_threshold_monotone {α : Type} [LinearOrder α] [Zero α]
    (ivs : List (Nat × Nat × Nat)) (thr₁ thr₂ : α) (h : thr₁ ≤ thr₂) (fuel : Nat)
    (scores : List α) :
    ∀ c ∈ greedyPicks ivs thr₂ fuel scores, c ∈ greedyPicks ivs thr₁ fuel scores :=
  fun _ hc => (greedyPicks_prefix ivs thr₁ thr₂ h fuel scores).subset hc

/-- **C07, per-interval score and maximiser**: the reported score is the maximum, over the splits
    leaving `m` samples on both sides, of the (column-summed) change score, and the reported
    maximiser attains it; evaluation fails exactly when no split is admissible. -/
theorem sbs_interval_argmax {α : Type} [LinearOrder α] [Zero α]
    (cs : Nat → Nat → Nat → α) (m : Nat) (iv : Nat × Nat) :
    (amoc cs m iv = none ↔ iv.2 < iv.1 + 2 * m) ∧
    ∀ k v, amoc cs m iv = some (k, v) →
      iv.1 + m ≤ k ∧ k + m ≤ iv.2 ∧ v = cs iv.1 k iv.2 ∧
      ∀ t, iv.1 + m ≤ t → t + m ≤ iv.2 → cs iv.1 t iv.2 ≤ v :=
  amoc_spec cs m iv

/-- **C07, greedy selection**: every changepoint is supported by an interval scoring above the
    threshold (whose maximiser it is); no above-threshold interval is left without a changepoint
    inside it; no later pick's interval contains an earlier changepoint.  (`idx` are the picked
    interval indices; the changepoints are their maximisers; the first pick is always a
    highest-scoring remaining interval: `sbs_pick_is_max`.) -/
theorem sbs_greedy {α : Type} [LinearOrder α] [Zero α]
    (trip : List (Nat × Nat × Nat)) (scores : List α) (thr : α) (hthr : 0 ≤ thr)
    (hin : ∀ (i s e c : Nat), trip[i]? = some (s, e, c) → s ≤ c ∧ c < e)
    (hlen : scores.length = trip.length) :
    let idx := greedyGen (killCpt trip) thr trip.length scores
    (∀ i ∈ idx, ∃ v, scores[i]? = some v ∧ thr < v) ∧
    (∀ (j : Nat) (v : α) (s e c : Nat), scores[j]? = some v → thr < v → trip[j]? = some (s, e, c) →
        ∃ i ∈ idx, s ≤ (trip.getD i (0, 0, 0)).2.2 ∧ (trip.getD i (0, 0, 0)).2.2 < e) ∧
    idx.Pairwise (fun i i' => killCpt trip i i' = false) := by
  intro idx
  have hself : ∀ i v, scores[i]? = some v → thr < v → killCpt trip i i = true := fun i v hi _ => by
    have hi' : i < trip.length := hlen ▸ (List.getElem?_eq_some_iff.1 hi).1
    have hg : trip[i]? = some trip[i] := List.getElem?_eq_getElem hi'
    rw [killCpt_eq_true, List.getD_eq_getElem?_getD, hg, Option.getD_some]
    exact hin i trip[i].1 trip[i].2.1 trip[i].2.2 hg
  obtain ⟨h1, h2, h3⟩ := greedyGen_sound (killCpt trip) hthr trip.length scores hself
    (hlen ▸ List.countP_le_length)
  refine ⟨h1, fun j v s e c hj hv htj => ?_, h3⟩
  obtain ⟨i, hi1, hi2⟩ := h2 j v hj hv
  have hget : trip.getD j (0, 0, 0) = (s, e, c) := by
    rw [List.getD_eq_getElem?_getD, htj, Option.getD_some]
  have := killCpt_eq_true.1 hi2
  rw [hget] at this
  exact ⟨i, hi1, this⟩

/-- the pick of every round is a highest-scoring remaining interval, above the threshold -/
theorem sbs_pick_is_max {α : Type} [LinearOrder α] [Zero α] (kill : Nat → Nat → Bool) (thr : α)
    (fuel : Nat) (cur : List α) (i : Nat) (rest : List Nat)
    (h : greedyGen kill thr (fuel + 1) cur = i :: rest) :
    ∃ v, cur[i]? = some v ∧ thr < v ∧ ∀ x ∈ cur, x ≤ v := by
  rcases greedyGen_succ kill thr fuel cur with ⟨hnil, -⟩ | ⟨i', v, hiv, hv, hmax, hcons⟩
  · rw [hnil] at h; cases h
  · obtain rfl : i' = i := (List.cons.inj (hcons.symm.trans h)).1
    exact ⟨v, hiv, hv, hmax⟩

/-- **C04 for seeded binary segmentation**: two picked changepoints whose intervals are
    "independent" (the later interval does not contain the earlier changepoint) are at least
    `m` apart, given that each maximiser leaves `m` samples on both sides of its interval. -/
theorem sbs_min_gap (trip : List (Nat × Nat × Nat)) (m i i' : Nat)
    (hb : ∀ j, (trip.getD j (0, 0, 0)).1 + m ≤ (trip.getD j (0, 0, 0)).2.2 ∧
        (trip.getD j (0, 0, 0)).2.2 + m ≤ (trip.getD j (0, 0, 0)).2.1)
    (hk : killCpt trip i i' = false) :
    (trip.getD i (0, 0, 0)).2.2 + m ≤ (trip.getD i' (0, 0, 0)).2.2 ∨
    (trip.getD i' (0, 0, 0)).2.2 + m ≤ (trip.getD i (0, 0, 0)).2.2 := by
  -- the later interval does not contain the earlier changepoint
  have hk' : ¬ ((trip.getD i' (0, 0, 0)).1 ≤ (trip.getD i (0, 0, 0)).2.2 ∧
      (trip.getD i (0, 0, 0)).2.2 < (trip.getD i' (0, 0, 0)).2.1) :=
    fun h => Bool.false_ne_true (hk ▸ killCpt_eq_true.2 h)
  have := hb i'
  omega

/-- non-vacuity: an admissible schedule and its layout -/
example : AdmissibleSchedule 10 4 8 [(4, 1), (7, 2)] := by
  unfold AdmissibleSchedule
  decide

example : seededFrom 10 4 [(4, 1), (7, 2)] =
    [(0, 4), (1, 5), (2, 6), (3, 7), (4, 8), (5, 9), (6, 10), (0, 7), (2, 9), (4, 10)] := by
  decide

end Skc
