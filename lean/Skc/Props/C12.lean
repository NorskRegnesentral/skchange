import Skc.Lemmas.Kernels
import Skc.Lemmas.Pen
import Skc.Lemmas.PeltSpec
import Skc.Lemmas.Congr
import Skc.Lemmas.Tables
import Skc.Lemmas.GaussCov
import Skc.Lemmas.PeltAffine
import Mathlib.Algebra.Order.BigOperators.Group.List

/-! # C12 — detections respect the model's symmetries: permutation, shift, scale, reversal

Algebraic content of the symmetries, on the closed forms of the kernels (tied to the generated code
by the L1 modules, see C01) and on the algorithm models.  Detector outputs depend on the
scorer only through its values on admissible cuts inside `[0, n]` (`*_output_depends_on_admissible_*`
below, from `Skc/Lemmas/Congr.lean`), so invariance of the score tables lifts to the detectors'
outputs (`pelt_l2_shift_invariant`, `pelt_gauss_shift_invariant` are the composed statements for PELT);
the floating-point margins are exercised by the correspondence (pairs of runs on X and transformed X). -/
open Finset
namespace Skc

/-! ### column permutation -/

/-- aggregated scores are sums over columns: invariant under column permutations -/
theorem agg_perm_invariant {α : Type} [AddCommMonoid α] (l l' : List α) (h : l.Perm l') :
    l.sum = l'.sum := h.sum_eq

section perm
variable {α : Type} [AddCommGroup α] [LinearOrder α] [IsOrderedAddMonoid α]

/-- the savings sorted decreasingly do not depend on the order of the columns -/
theorem orderDesc_vals_perm_invariant (sav sav' : List α) (h : sav.Perm sav') :
    (orderDesc sav).map (·.2) = (orderDesc sav').map (·.2) := by
  apply List.Perm.eq_of_pairwise (le := (· ≥ ·))
  · intro a b _ _ h1 h2; exact le_antisymm h2 h1
  · exact orderDesc_vals_sorted sav
  · exact orderDesc_vals_sorted sav'
  · exact (orderDesc_vals_perm sav).trans (h.trans (orderDesc_vals_perm sav').symm)

/-- **C12, permutation**: the penalised saving of a candidate (general branch) depends on the
    multiset of column savings only -/
theorem penGeneral_perm_invariant (sav sav' : List α) (alpha : α) (betas : List α)
    (h : sav.Perm sav') : (penGeneral sav alpha betas).2 = (penGeneral sav' alpha betas).2 := by
  simp only [penGeneral, orderDesc_vals_perm_invariant sav sav' h]
end perm

/-! ### shift -/

/-- **C12, shift**: the optimal-mean squared-error cost is invariant under `x ↦ x + c`
    (`S₁ ↦ S₁ + n c`, `S₂ ↦ S₂ + 2 c S₁ + n c²`) -/
theorem l2Optim_shift_invariant (S1 S2 n c : ℝ) (hn : n ≠ 0) :
    CF.l2Optim (S1 + n * c) (S2 + 2 * c * S1 + n * c ^ 2) n = CF.l2Optim S1 S2 n := by
  rw [l2Optim_eq_mul_empVar _ _ n hn, l2Optim_eq_mul_empVar _ _ n hn, empVar_shift S1 S2 n c hn]

/-- **C12, shift**: so is the (floored) variance, hence the optimal univariate Gaussian cost -/
theorem gaussOptim_shift_invariant (S1 S2 n c : ℝ) (hn : n ≠ 0) :
    CF.gaussOptim (S1 + n * c) (S2 + 2 * c * S1 + n * c ^ 2) n = CF.gaussOptim S1 S2 n := by
  simp only [CF.gaussOptim, varFloor_eq_max_empVar, empVar_shift S1 S2 n c hn]

/-- **C12, shift**: the CUSUM score is invariant under `x ↦ x + c` -/
theorem cusum_shift_invariant (Sb Sa nb na c : ℝ) (hb : 0 < nb) (ha : 0 < na) :
    CF.cusum (Sb + nb * c) (Sa + na * c) nb na (nb + na) = CF.cusum Sb Sa nb na (nb + na) := by
  rw [cusum_eq hb ha, cusum_eq hb ha, add_div, add_div, mul_div_cancel_left₀ _ hb.ne',
    mul_div_cancel_left₀ _ ha.ne', add_sub_add_right_eq_sub]

/-! ### scale -/

/-- **C12, scale**: multiplying the data by `a > 0` multiplies every variance by `a²`; the Gaussian
    change score `C(full) − C(left) − C(right)` is unchanged above the variance floor -/
theorem gauss_change_score_scale_invariant (a v v1 v2 n1 n2 : ℝ) (ha : 0 < a) (hv : 0 < v)
    (hv1 : 0 < v1) (hv2 : 0 < v2) :
    ((n1 + n2) * Real.log (2 * Real.pi * (a ^ 2 * v)) + (n1 + n2))
      - (n1 * Real.log (2 * Real.pi * (a ^ 2 * v1)) + n1)
      - (n2 * Real.log (2 * Real.pi * (a ^ 2 * v2)) + n2) =
    ((n1 + n2) * Real.log (2 * Real.pi * v) + (n1 + n2))
      - (n1 * Real.log (2 * Real.pi * v1) + n1) - (n2 * Real.log (2 * Real.pi * v2) + n2) := by
  rw [log_two_pi_scale ha hv, log_two_pi_scale ha hv1, log_two_pi_scale ha hv2]; ring

/-! ### lift to the detectors -/

/-- **C12, lift (PELT)**: cost tables that agree on every interval `[s, e)`, `s < e ≤ n`, give the same
    scores and changepoints — for the code's policy and every other member of the family with an
    extensional selector -/
theorem pelt_output_depends_on_admissible_costs {α : Type} [Add α] [Neg α] [Zero α] [LT α] [DecidableLT α]
    (cost cost' : Nat → Nat → α) (pen : α) (m n : Nat) (hm : 1 ≤ m) (hn : 2 * m ≤ n)
    (h : ∀ s e, s < e → e ≤ n → cost s e = cost' s e) :
    runPeltCode cost pen m n = runPeltCode cost' pen m n :=
  runPelt_congr argminL prStrict pickExt_argminL pickMem_argminL cost cost' pen m (m - 1) n hm hn h

/-- **C12, lift (CAPA / MVCAPA)**: penalised savings that agree on every interval inside `[0, n]` give
    the same scores and anomalies -/
theorem capa_output_depends_on_admissible_savings {α : Type} [AddCommGroup α] [LinearOrder α]
    [IsOrderedAddMonoid α] (PS PS' : Nat → Nat → α) (PP PP' : Nat → α) (K : α) (m M delay n : Nat)
    (hm : 1 ≤ m) (h : ∀ s e, s < e → e ≤ n → PS s e = PS' s e) (hp : ∀ t, t < n → PP t = PP' t) :
    runCapa PS PP K m M delay n = runCapa PS' PP' K m M delay n :=
  runCapaG_congr argmaxL prLt pickExt_argmaxL pickMem_argmaxL PS PS' PP PP' K m M delay n hm h hp

/-- **C12, lift (moving window)**: change scores that agree on cuts `s < k < e ≤ n` give the same score
    curve and hence the same changepoints -/
theorem mw_output_depends_on_admissible_scores {α : Type} [LT α] [DecidableLT α] [Zero α]
    (cs cs' : Nat → Nat → Nat → α) (n b : Nat) (hb : 1 ≤ b) (thr : α) (mdi : Nat)
    (h : ∀ s k e, s < k → k < e → e ≤ n → cs s k e = cs' s k e) :
    mwScores cs n b 0 = mwScores cs' n b 0 ∧
      mwCpts (mwScores cs n b 0) n thr mdi = mwCpts (mwScores cs' n b 0) n thr mdi := by
  have := mwScores_congr cs cs' n b hb h
  exact ⟨this, by rw [this]⟩

/-- **C12, lift (seeded binary segmentation)** -/
theorem sbs_output_depends_on_admissible_scores {α : Type} [LT α] [DecidableLT α] [Zero α]
    (cs cs' : Nat → Nat → Nat → α) (m n : Nat) (hm : 1 ≤ m) (thr : α)
    (ivs : List (Nat × Nat)) (hivs : ∀ iv ∈ ivs, iv.2 ≤ n)
    (h : ∀ s k e, s < k → k < e → e ≤ n → cs s k e = cs' s k e) :
    runSbs cs m thr ivs = runSbs cs' m thr ivs :=
  runSbs_congr cs cs' m n hm thr ivs hivs h

/-- **C12, lift (circular binary segmentation)** -/
theorem cbs_output_depends_on_admissible_scores {α : Type} [LT α] [DecidableLT α] [Zero α]
    (las las' : Nat → Nat → Nat → Nat → α) (m n : Nat) (hm : 1 ≤ m) (thr : α)
    (ivs : List (Nat × Nat)) (hivs : ∀ iv ∈ ivs, iv.2 ≤ n)
    (h : ∀ s i j e, s < i → i < j → j < e → e ≤ n → las s i j e = las' s i j e) :
    runCbs las m thr ivs = runCbs las' m thr ivs :=
  runCbs_congr las las' m n hm thr ivs hivs h

/-! ### composed statements: PELT on shifted data -/

theorem l2Table_shift (x : ℕ → ℝ) (c : ℝ) {s e : ℕ} (h : s < e) :
    l2Table (fun i => x i + c) s e = l2Table x s e := by
  rw [l2Table, segSum_shift x c s e h.le, segSum_sq_shift x c s e h.le]
  exact l2Optim_shift_invariant _ _ _ c (len_pos h).ne'

theorem gaussTable_shift (x : ℕ → ℝ) (c : ℝ) {s e : ℕ} (h : s < e) :
    gaussTable (fun i => x i + c) s e = gaussTable x s e := by
  rw [gaussTable, segSum_shift x c s e h.le, segSum_sq_shift x c s e h.le]
  exact gaussOptim_shift_invariant _ _ _ c (len_pos h).ne'

/-- **C12, shift, detector level**: PELT with the squared-error cost returns the same scores and
    changepoints on `x + c` as on `x` -/
theorem pelt_l2_shift_invariant (x : ℕ → ℝ) (c pen : ℝ) (m n : ℕ) (hm : 1 ≤ m) (hn : 2 * m ≤ n) :
    runPeltCode (l2Table (fun i => x i + c)) pen m n = runPeltCode (l2Table x) pen m n :=
  pelt_output_depends_on_admissible_costs _ _ pen m n hm hn fun _ _ hse _ => l2Table_shift x c hse

/-- … and so does PELT with the univariate Gaussian cost -/
theorem pelt_gauss_shift_invariant (x : ℕ → ℝ) (c pen : ℝ) (m n : ℕ) (hm : 1 ≤ m) (hn : 2 * m ≤ n) :
    runPeltCode (gaussTable (fun i => x i + c)) pen m n = runPeltCode (gaussTable x) pen m n :=
  pelt_output_depends_on_admissible_costs _ _ pen m n hm hn fun _ _ hse _ => gaussTable_shift x c hse

/-! ### multivariate Gaussian cost (from the rows) -/

/-- **C12, shift, multivariate**: the sample covariance of the rows `[s, e)` — hence the multivariate
    Gaussian cost and its change score — is unchanged by adding a constant vector to every row -/
theorem gcov_shift_invariant {p : ℕ} (x : ℕ → Fin p → ℝ) (c : Fin p → ℝ) (s k e : ℕ) (h1 : s < k) (h2 : k < e) :
    covMat (fun i j => x i j + c j) s e = covMat x s e ∧
    gcovCost (fun i j => x i j + c j) s e = gcovCost x s e ∧
    gcovChange (fun i j => x i j + c j) s k e = gcovChange x s k e :=
  ⟨covMat_shift x c s e (h1.trans h2), gcovCost_shift x c s e (h1.trans h2), gcovChange_shift x c s k e h1 h2⟩

/-- **C12, scale, multivariate**: multiplying the data by `a > 0` multiplies the covariance by `a²`,
    adds `(e − s) p log a²` to the cost, and leaves the change score unchanged whenever the three
    sample covariances are non-singular (positive determinant) -/
theorem gcov_scale_invariant {p : ℕ} (x : ℕ → Fin p → ℝ) (a : ℝ) (ha : 0 < a) (s k e : ℕ)
    (hd : 0 < (covMat x s e).det) (hd1 : 0 < (covMat x s k).det) (hd2 : 0 < (covMat x k e).det) :
    covMat (fun i j => a * x i j) s e = (a ^ 2) • covMat x s e ∧
    gcovCost (fun i j => a * x i j) s e = gcovCost x s e + ((e : ℝ) - s) * p * Real.log (a ^ 2) ∧
    gcovChange (fun i j => a * x i j) s k e = gcovChange x s k e :=
  ⟨covMat_scale x a s e, by rw [gcovCost_scale x a ha s e hd, ← mul_rotate], gcovChange_scale x a ha s k e hd hd1 hd2⟩

/-! ### composed statements: PELT on rescaled data (Gaussian costs) -/

/-- **C12, lift of the scale symmetry to PELT**: a cost that changes by a term proportional to the segment
    length (`cost' s e = cost s e + c (e − s)` on the cuts PELT reads) gives the same changepoints; the
    prefix scores move by `c t`.  (Rescaling the data changes a Gaussian cost by `(e − s) log a²` per
    column: the cost is *not* invariant, PELT's output is.) -/
theorem pelt_output_invariant_under_length_proportional_terms (cost cost' : ℕ → ℕ → ℝ) (c pen : ℝ) (m n : ℕ)
    (hm : 1 ≤ m) (hn : 2 * m ≤ n)
    (h : ∀ s e, s + m ≤ e → e ≤ n → cost' s e = cost s e + c * ((e : ℝ) - s)) :
    (runPeltCode cost' pen m n).2 = (runPeltCode cost pen m n).2 ∧
      ∀ t, m ≤ t → t ≤ n → (runPeltCode cost' pen m n).1 t = (runPeltCode cost pen m n).1 t + c * t := by
  have hk : 2 * m + (n + 1 - 2 * m) = n + 1 := Nat.add_sub_of_le (Nat.le_succ_of_le hn)
  have r := peltIter_affine cost cost' c pen m (m - 1) n hm h (n + 1 - 2 * m) hk.le
  refine ⟨congrArg (fun prev => (backtrack prev (n + 1) n []).drop 1) r.prev, fun t h1 h2 => ?_⟩
  have := r.opt t
  rwa [hk, if_pos ⟨h1, Nat.lt_succ_of_le h2⟩] at this

/-- **C12, scale, detector level**: PELT with the univariate Gaussian cost returns the same changepoints on
    `a · x` (`a > 0`) as on `x`, provided the empirical variances of the intervals it reads are at or above
    the floor before and after rescaling (at the floor the cost is not scale-equivariant) -/
theorem pelt_gauss_scale_invariant (x : ℕ → ℝ) (a pen : ℝ) (ha : 0 < a) (m n : ℕ) (hm : 1 ≤ m) (hn : 2 * m ≤ n)
    (habove : ∀ s e, s + m ≤ e → e ≤ n → varFloorConst ≤ segVar x s e ∧ varFloorConst ≤ a ^ 2 * segVar x s e) :
    (runPeltCode (gaussTable (fun i => a * x i)) pen m n).2 = (runPeltCode (gaussTable x) pen m n).2 :=
  (pelt_output_invariant_under_length_proportional_terms (gaussTable x) (gaussTable (fun i => a * x i)) (Real.log (a ^ 2)) pen m n hm hn
    (fun s e hse hen => gaussTable_scale x a ha s e (habove s e hse hen))).1

/-- **C12, scale, detector level, multivariate**: PELT with the multivariate Gaussian cost (from the rows)
    returns the same changepoints on `a · x`, provided the sample covariances of the intervals it reads
    are non-singular (otherwise the code raises) -/
theorem pelt_gcov_scale_invariant {p : ℕ} (x : ℕ → Fin p → ℝ) (a pen : ℝ) (ha : 0 < a) (m n : ℕ)
    (hm : 1 ≤ m) (hn : 2 * m ≤ n) (hdet : ∀ s e, s + m ≤ e → e ≤ n → 0 < (covMat x s e).det) :
    (runPeltCode (gcovCost (fun i j => a * x i j)) pen m n).2 = (runPeltCode (gcovCost x) pen m n).2 :=
  (pelt_output_invariant_under_length_proportional_terms (gcovCost x) (gcovCost (fun i j => a * x i j))
    (p * Real.log (a ^ 2)) pen m n hm hn
    (fun s e hse hen => gcovCost_scale x a ha s e (hdet s e hse hen))).1

/-! ### composed statements: moving window and seeded binary segmentation on rescaled data -/

/-- the change score derived from a cost, `C(s,e) − C(s,k) − C(k,e)`, as the detectors' score table -/
def costChange (cost : ℕ → ℕ → ℝ) : ℕ → ℕ → ℕ → ℝ := fun s k e => cost s e - cost s k - cost k e

/-- **C12, lift of the scale symmetry to moving window and seeded binary segmentation**: when the cost
    changes by a term proportional to the segment length on the intervals these detectors read (at least
    `m` rows), the derived change score is unchanged there, hence the moving-window score curve and
    changepoints (bandwidth `m`) and the seeded-binary-segmentation table and changepoints are unchanged -/
theorem mw_sbs_output_invariant_under_length_proportional_terms (cost cost' : ℕ → ℕ → ℝ) (c : ℝ) (m n : ℕ)
    (h : ∀ s e, s + m ≤ e → e ≤ n → cost' s e = cost s e + c * ((e : ℝ) - s))
    (thr : ℝ) (mdi : ℕ) (ivs : List (ℕ × ℕ)) (hivs : ∀ iv ∈ ivs, iv.2 ≤ n) :
    mwCpts (mwScores (costChange cost') n m 0) n thr mdi = mwCpts (mwScores (costChange cost) n m 0) n thr mdi ∧
      runSbs (costChange cost') m thr ivs = runSbs (costChange cost) m thr ivs := by
  have hcs : ∀ s k e, s + m ≤ k → k + m ≤ e → e ≤ n → costChange cost' s k e = costChange cost s k e := by
    intro s k e h1 h2 h3
    have hke := Nat.le_of_add_right_le h2
    rw [costChange, costChange, h s e (h1.trans hke) h3, h s k h1 (hke.trans h3), h k e h2 h3]
    ring
  constructor
  · rw [mwScores_congr_read (costChange cost') (costChange cost) n m
      (fun s k e h1 h2 h3 => hcs s k e h1.le h2.le h3)]
  · exact runSbs_congr_read (costChange cost') (costChange cost) m n thr ivs hivs hcs

/-- **C12, scale, detector level**: moving window and seeded binary segmentation with the univariate
    Gaussian cost are unchanged by rescaling the data (variances at or above the floor before and after) -/
theorem mw_sbs_gauss_scale_invariant (x : ℕ → ℝ) (a : ℝ) (ha : 0 < a) (m n : ℕ)
    (habove : ∀ s e, s + m ≤ e → e ≤ n → varFloorConst ≤ segVar x s e ∧ varFloorConst ≤ a ^ 2 * segVar x s e)
    (thr : ℝ) (mdi : ℕ) (ivs : List (ℕ × ℕ)) (hivs : ∀ iv ∈ ivs, iv.2 ≤ n) :
    mwCpts (mwScores (costChange (gaussTable (fun i => a * x i))) n m 0) n thr mdi =
        mwCpts (mwScores (costChange (gaussTable x)) n m 0) n thr mdi ∧
      runSbs (costChange (gaussTable (fun i => a * x i))) m thr ivs = runSbs (costChange (gaussTable x)) m thr ivs :=
  mw_sbs_output_invariant_under_length_proportional_terms _ _ (Real.log (a ^ 2)) m n
    (fun s e hse hen => gaussTable_scale x a ha s e (habove s e hse hen)) thr mdi ivs hivs

/-- … and with the multivariate Gaussian cost (non-singular sample covariances on the intervals read) -/
theorem mw_sbs_gcov_scale_invariant {p : ℕ} (x : ℕ → Fin p → ℝ) (a : ℝ) (ha : 0 < a) (m n : ℕ)
    (hdet : ∀ s e, s + m ≤ e → e ≤ n → 0 < (covMat x s e).det)
    (thr : ℝ) (mdi : ℕ) (ivs : List (ℕ × ℕ)) (hivs : ∀ iv ∈ ivs, iv.2 ≤ n) :
    mwCpts (mwScores (costChange (gcovCost (fun i j => a * x i j))) n m 0) n thr mdi =
        mwCpts (mwScores (costChange (gcovCost x)) n m 0) n thr mdi ∧
      runSbs (costChange (gcovCost (fun i j => a * x i j))) m thr ivs = runSbs (costChange (gcovCost x)) m thr ivs :=
  mw_sbs_output_invariant_under_length_proportional_terms _ _ (p * Real.log (a ^ 2)) m n
    (fun s e hse hen => gcovCost_scale x a ha s e (hdet s e hse hen)) thr mdi ivs hivs

/-! ### composed statements: circular binary segmentation on rescaled data (univariate Gaussian cost) -/

/-- partial sums of the rows of `[s, e)` outside `[i, j)` (the rows `LocalAnomalyScore` pools) -/
noncomputable def pooledSum (x : ℕ → ℝ) (s i j e : ℕ) : ℝ := segSum x s i + segSum x j e
/-- empirical variance of the pooled rows -/
noncomputable def pooledVar (x : ℕ → ℝ) (s i j e : ℕ) : ℝ :=
  pooledSum (fun t => x t ^ 2) s i j e / (((i : ℝ) - s) + ((e : ℝ) - j))
    - (pooledSum x s i j e / (((i : ℝ) - s) + ((e : ℝ) - j))) ^ 2
/-- the local anomaly score of the univariate Gaussian cost, from the rows:
    `C(s,e) − C(i,j) − C(rows of [s,i) and [j,e) pooled)` -/
noncomputable def gaussLocal (x : ℕ → ℝ) : ℕ → ℕ → ℕ → ℕ → ℝ := fun s i j e =>
  gaussTable x s e - gaussTable x i j
    - CF.gaussOptim (pooledSum x s i j e) (pooledSum (fun t => x t ^ 2) s i j e) (((i : ℝ) - s) + ((e : ℝ) - j))

/-- **C12, scale, detector level (circular binary segmentation)**: with the univariate Gaussian cost, the
    local anomaly scores of the cuts the detector reads — hence its table and anomalies — are unchanged by
    rescaling the data, provided the variances involved (whole candidate, inner interval, pooled
    surroundings) are at or above the floor before and after -/
theorem cbs_gauss_scale_invariant (x : ℕ → ℝ) (a : ℝ) (ha : 0 < a) (m n : ℕ) (thr : ℝ)
    (ivs : List (ℕ × ℕ)) (hivs : ∀ iv ∈ ivs, iv.2 ≤ n)
    (habove : ∀ s e, s + m ≤ e → e ≤ n → varFloorConst ≤ segVar x s e ∧ varFloorConst ≤ a ^ 2 * segVar x s e)
    (hpool : ∀ s i j e, s < i → i + m ≤ j → j < e → m ≤ (e - j) + (i - s) → e ≤ n →
      varFloorConst ≤ pooledVar x s i j e ∧ varFloorConst ≤ a ^ 2 * pooledVar x s i j e) :
    runCbs (gaussLocal (fun t => a * x t)) m thr ivs = runCbs (gaussLocal x) m thr ivs := by
  apply runCbs_congr_read _ _ m n thr ivs hivs
  intro s i j e h1 h2 h3 h4 h5
  have hp := hpool s i j e h1 h2 h3 h4 h5
  -- the pooled sums written out, in the hypothesis and in the goal, where `a` and `a²` come out in front
  simp only [pooledVar, pooledSum] at hp
  simp only [gaussLocal, pooledSum, segSum_mul_left, segSum_sq_scale, ← mul_add]
  rw [gaussTable_scale x a ha s e (habove s e (by omega) h5), gaussTable_scale x a ha i j (habove i j h2 (h3.le.trans h5)),
    gaussOptim_scale _ _ _ a ha hp.1 hp.2]
  ring

/-- **C12, scale, detector level (circular binary segmentation, multivariate Gaussian cost)**: the local anomaly
    score from the rows (`gcovLocal`: whole candidate minus inner interval minus the pooled surroundings) is
    unchanged by rescaling on every cut the detector reads, hence so are its table and anomalies — provided
    the three sample covariances of each such cut are non-singular (otherwise the code raises) -/
theorem cbs_gcov_scale_invariant {p : ℕ} (x : ℕ → Fin p → ℝ) (a : ℝ) (ha : 0 < a) (m n : ℕ) (thr : ℝ)
    (ivs : List (ℕ × ℕ)) (hivs : ∀ iv ∈ ivs, iv.2 ≤ n)
    (hdet : ∀ s i j e, s < i → i + m ≤ j → j < e → m ≤ (e - j) + (i - s) → e ≤ n →
      0 < (covMat x s e).det ∧ 0 < (covMat x i j).det ∧ 0 < (covMatOn x (surround s i j e)).det) :
    runCbs (gcovLocal (fun t c => a * x t c)) m thr ivs = runCbs (gcovLocal x) m thr ivs := by
  apply runCbs_congr_read _ _ m n thr ivs hivs
  intro s i j e h1 h2 h3 h4 h5
  obtain ⟨d0, d1, d2⟩ := hdet s i j e h1 h2 h3 h4 h5
  exact gcovLocal_scale x a ha s i j e h1.le (Nat.le_of_add_right_le h2) h3.le d0 d1 d2

/-! ### time reversal -/

/-- **C12, reversal**: the rows `[s, e)` of the reversed series are the rows `[N - e, N - s)` of the
    original one, so every per-interval sum — hence every cost — is that of the mirrored interval -/
theorem segSum_reverse (x : ℕ → ℝ) (N s e : ℕ) (hse : s ≤ e) (he : e ≤ N) :
    segSum (fun i => x (N - 1 - i)) s e = segSum x (N - e) (N - s) := by
  rcases N.eq_zero_or_pos with rfl | hN
  · obtain rfl := Nat.le_zero.1 he
    obtain rfl := Nat.le_zero.1 hse
    rfl
  · have := sum_Ico_reflect x s (m := e) (n := N - 1) (by omega)
    rwa [Nat.sub_add_cancel hN] at this

/-- **C12, reversal**: PELT's optimal penalised cost is unchanged — mirroring is a cost-preserving
    bijection between the admissible segmentations of the series and of its reversal -/
theorem pelt_reversal_bijection {α : Type} [AddCommGroup α] [LinearOrder α] [IsOrderedAddMonoid α]
    (cost : Nat → Nat → α) (pen : α) (m n : Nat) (cps : List Nat) (h : ValidFrom m 0 cps n) :
    ValidFrom m 0 (revCps n cps) n ∧
    segCost (fun a b => cost (n - b) (n - a)) pen 0 (revCps n cps) n = segCost cost pen 0 cps n := by
  simpa only [Nat.sub_self, Nat.sub_zero] using validFrom_segCost_rev cost pen m n cps 0 n le_rfl h

end Skc
