import Skc.Lemmas.CapaSpec
import Skc.Lemmas.PenH
import Skc.Lemmas.Tables
import Skc.Lemmas.CapaOn
import Skc.Lemmas.GaussCovIneq

/-! # C03 — CAPA / MVCAPA anomalies maximise the total penalised saving

Models: `Skc.runCapa` (`Skc/Model/Capa.lean`: `run_base_capa` + `get_anomalies`, abstract in the
penalised savings `PS s e`, `PP t` and the pruning slack `K = alpha + Σ betas`) and `Skc.penalise`
(`Skc/Model/Pen.lean`: the three branches of `penalise_savings`).  The driver composes them exactly
as `run_base_capa` does; the correspondence check ties the composition to `CAPA` and `MVCAPA`.

The theorems at model level hold in every totally ordered additive group, for every `n`, `2 ≤ m ≤ M` and
pruning delay `≥ m-1`; those composed down to the data are over `ℝ`. -/
namespace Skc
set_option linter.unusedSectionVars false

section group
variable {α : Type} [AddCommGroup α] [LinearOrder α] [IsOrderedAddMonoid α]

/-- **C03 (DP exactness)**: the reported anomalies are an admissible set (sorted, disjoint,
    collective lengths in `[m, M]`, point anomalies of length 1) whose total penalised saving is the
    final score, and no admissible set saves more. -/
theorem capaG_optimal (pick : (Nat → α) → List Nat → Nat) (pr : α → α → Bool)
    (hpick : SoundPickMax pick) (hpr : SoundPruneC pr) (PS : Nat → Nat → α) (PP : Nat → α) (K : α) (m M delay n : Nat)
    (hm : 2 ≤ m) (hmM : m ≤ M) (hd : m ≤ delay + 1) (H : PruneIneq PS K m M n) :
    let r := runCapaG pick pr PS PP K m M delay n
    ValidAnoms m M 0 r.2 n ∧ anomVal PS PP r.2 = r.1 n ∧
      ∀ l, ValidAnoms m M 0 l n → anomVal PS PP l ≤ r.1 n := by
  obtain ⟨_, _, hub, hbt⟩ := capaG_backtrack hpick hpr PP hm hmM hd H
  obtain ⟨h1, h2, _⟩ := hbt n (le_refl n)
  exact ⟨h1, h2, fun l hl => hub l n (le_refl n) hl⟩

/-- **C03 (scores)**: every reported cumulative score is the optimum of its prefix; scores are
    `≥ 0` and non-decreasing. -/
theorem capaG_prefix (pick : (Nat → α) → List Nat → Nat) (pr : α → α → Bool)
    (hpick : SoundPickMax pick) (hpr : SoundPruneC pr) (PS : Nat → Nat → α) (PP : Nat → α) (K : α) (m M delay n : Nat)
    (hm : 2 ≤ m) (hmM : m ≤ M) (hd : m ≤ delay + 1) (H : PruneIneq PS K m M n)
    (e : Nat) (he : e ≤ n) :
    let opt := (runCapaG pick pr PS PP K m M delay n).1
    (∃ l, ValidAnoms m M 0 l e ∧ anomVal PS PP l = opt e) ∧
      (∀ l, ValidAnoms m M 0 l e → anomVal PS PP l ≤ opt e) ∧
      0 ≤ opt e ∧ (∀ e', e' ≤ e → opt e' ≤ opt e) := by
  obtain ⟨h0, hmono, hub, hbt⟩ := capaG_backtrack hpick hpr PP hm hmM hd H
  obtain ⟨h1, h2, _⟩ := hbt e he
  exact ⟨⟨_, h1, h2⟩, fun l hl => hub l e he hl, h0 ▸ hmono 0 e (Nat.zero_le e) he, fun e' he' => hmono e' e he' he⟩

/-- every reported anomaly has a strictly positive penalised saving ("no anomaly" wins ties) -/
theorem capaG_reported_positive (pick : (Nat → α) → List Nat → Nat) (pr : α → α → Bool)
    (hpick : SoundPickMax pick) (hpr : SoundPruneC pr) (PS : Nat → Nat → α) (PP : Nat → α) (K : α) (m M delay n : Nat)
    (hm : 2 ≤ m) (hmM : m ≤ M) (hd : m ≤ delay + 1) (H : PruneIneq PS K m M n) :
    ∀ a ∈ (runCapaG pick pr PS PP K m M delay n).2, 0 < anomVal1 PS PP a := by
  obtain ⟨_, _, _, hbt⟩ := capaG_backtrack hpick hpr PP hm hmM hd H
  exact (hbt n (le_refl n)).2.2

/-- C03 for the instance that mirrors `run_base_capa` (first maximiser, strict pruning test) -/
theorem capa_optimal (PS : Nat → Nat → α) (PP : Nat → α) (K : α) (m M delay n : Nat)
    (hm : 2 ≤ m) (hmM : m ≤ M) (hd : m ≤ delay + 1) (H : PruneIneq PS K m M n) :
    let r := runCapa PS PP K m M delay n
    ValidAnoms m M 0 r.2 n ∧ anomVal PS PP r.2 = r.1 n ∧
      ∀ l, ValidAnoms m M 0 l n → anomVal PS PP l ≤ r.1 n :=
  capaG_optimal argmaxL prLt soundPickMax_argmaxL soundPruneC_lt PS PP K m M delay n hm hmM hd H

theorem capa_prefix (PS : Nat → Nat → α) (PP : Nat → α) (K : α) (m M delay n : Nat)
    (hm : 2 ≤ m) (hmM : m ≤ M) (hd : m ≤ delay + 1) (H : PruneIneq PS K m M n)
    (e : Nat) (he : e ≤ n) :
    let opt := (runCapa PS PP K m M delay n).1
    (∃ l, ValidAnoms m M 0 l e ∧ anomVal PS PP l = opt e) ∧
      (∀ l, ValidAnoms m M 0 l e → anomVal PS PP l ≤ opt e) ∧
      0 ≤ opt e ∧ (∀ e', e' ≤ e → opt e' ≤ opt e) :=
  capaG_prefix argmaxL prLt soundPickMax_argmaxL soundPruneC_lt PS PP K m M delay n hm hmM hd H e he

theorem capa_reported_positive (PS : Nat → Nat → α) (PP : Nat → α) (K : α) (m M delay n : Nat)
    (hm : 2 ≤ m) (hmM : m ≤ M) (hd : m ≤ delay + 1) (H : PruneIneq PS K m M n) :
    ∀ a ∈ (runCapa PS PP K m M delay n).2, 0 < anomVal1 PS PP a :=
  capaG_reported_positive argmaxL prLt soundPickMax_argmaxL soundPruneC_lt PS PP K m M delay n
    hm hmM hd H

/-- **C03 (ignore_point_anomalies)**: the model's output with the flag set is the back-tracked list
    filtered by "length ≠ 1"; what is omitted is exactly the point anomalies, and every collective
    anomaly is kept (`m ≥ 2` makes "length 1" and "point" coincide). -/
theorem capa_ignore_points (l : List (Nat × Nat)) (a : Nat × Nat) :
    a ∈ l.filter (fun a => decide (a.2 ≠ a.1 + 1)) ↔ a ∈ l ∧ a.2 ≠ a.1 + 1 := by
  rw [List.mem_filter, decide_eq_true_eq]

/-! ### The penalised saving of one candidate (`penalise_savings`) -/

/-- **C03 (i), general branch**: the value is that of the `k+1` largest savings for the best `k`,
    and it dominates every non-empty selection `J` of components (`|J|` betas and `alpha` once). -/
theorem penalise_general_best (sav : List α) (alpha : α) (betas : List α)
    (hlen : betas.length = sav.length) (hp : sav ≠ []) :
    let r := penGeneral sav alpha betas
    r.1 < sav.length ∧ r.2 = prefVal sav alpha betas r.1 ∧
      ∀ J : List α, J.Subperm sav → J ≠ [] →
        J.sum - (betas.take J.length).sum - alpha ≤ r.2 := by
  intro r
  obtain ⟨h1, h2, _⟩ := penGeneral_spec sav alpha betas hlen hp
  exact ⟨h1, h2, penGeneral_ge_subset sav alpha betas hlen⟩

/-- pruning inequality, general branch -/
theorem penalise_general_H (x y z : List α) (alpha : α) (betas : List α)
    (h : SubAdd x y z) (hlen : betas.length = x.length) (hp : x ≠ [])
    (hb : ∀ v ∈ betas, 0 ≤ v) :
    (penGeneral x alpha betas).2 ≤
      (penGeneral y alpha betas).2 + (penGeneral z alpha betas).2 + (alpha + betas.sum) := by
  obtain ⟨hxy, hxz⟩ := h.length
  exact h.isBestSel_le hb ⟨_, penGeneral_attained alpha hlen hp⟩
    (penGeneral_ge_subset y alpha betas (hlen.trans hxy)) (penGeneral_ge_subset z alpha betas (hlen.trans hxz))

/-- pruning inequality, dense branch (`Σ − alpha`) -/
theorem penalise_dense_H (x y z : List α) (alpha : α) (betas : List α)
    (h : SubAdd x y z) (hb : 0 ≤ betas.sum) :
    x.sum - alpha ≤ (y.sum - alpha) + (z.sum - alpha) + (alpha + betas.sum) :=
  penalised_subadd alpha (h.sum_le.trans_eq (add_zero _).symm) hb

/-- pruning inequality, equal-betas branch (`Σ max(s − β, 0) − alpha`, slack `alpha + p·β`) -/
theorem penalise_equal_H (x y z : List α) (alpha b : α) (h : SubAdd x y z) (hb : 0 ≤ b) :
    (x.map (pos b)).sum - alpha ≤
      ((y.map (pos b)).sum - alpha) + ((z.map (pos b)).sum - alpha)
        + (alpha + (x.map (fun _ => b)).sum) := by
  rw [List.map_const', List.sum_replicate]
  exact penalised_subadd alpha (h.sum_map_le (pos b) b (pos_subadd b hb)) (le_refl _)

/-- the pruning inequality for the code's penalised saving: whichever branch `(eps, betas)` selects -/
theorem penalise_H {eps alpha : α} {x y z betas : List α} {p : Nat} (hp : 0 < p)
    (hlen : x.length = p) (h : SubAdd x y z) (ok : PenOK eps p alpha betas) :
    penalise eps x alpha betas ≤
      penalise eps y alpha betas + penalise eps z alpha betas + (alpha + sumL betas) := by
  rw [sumL_eq_sum]
  rcases ok.penalise_cases with ⟨hz, hval⟩ | ⟨hbl, ⟨b, hb, hb0, hval⟩ | hval⟩ <;>
    simp only [hval]
  · exact penalise_dense_H x y z alpha betas h (List.sum_eq_zero hz).ge
  · exact (penalise_equal_H x y z alpha b h hb0).trans_eq
      (by rw [List.map_const', List.sum_replicate, List.sum_eq_card_nsmul betas b hb, hbl, hlen])
  · exact penalise_general_H x y z alpha betas h (hbl.trans hlen.symm)
      (List.ne_nil_of_length_pos (hlen.symm ▸ hp)) ok.betas_nonneg

/-! ### The composition the code executes, against the specification -/

/-- **C03, scores and anomalies against the specification, hypotheses on what CAPA reads.**  Let the
    collective / point savings be vectors of `pc`, `pp ≥ 1` non-negative column savings, sub-additive under
    splitting column by column, with `PenOK` penalties, and let `PSs`, `PPs` be the *specification's*
    penalised savings (`IsBestSel`) — all of it asked only of collective candidates `[s, e)` with
    `m ≤ e - s ≤ M`, `e ≤ n`, and of points `t < n`.  Then back-tracking from any `e ≤ n` in the model of
    `run_base_capa` driven by the code's `penalise_savings` returns an admissible set whose total
    specification saving is `opt e`, no admissible set on `[0, e]` has a larger one, and the scores are
    non-negative and non-decreasing.  (`penalise_spec`: the code over-estimates only candidates that are
    not positive, and those are never reported; `penalise_H`: the code's value obeys the pruning inequality.) -/
theorem capa_prefix_wrt_specification_on {pick : (Nat → α) → List Nat → Nat} {pr : α → α → Bool}
    (hpick : SoundPickMax pick) (hpr : SoundPruneC pr) {eps : α} {csav : Nat → Nat → List α} {psav : Nat → List α}
    {ca pa : α} {cb pb : List α} {pc pp m M delay n : Nat}
    (hm : 2 ≤ m) (hmM : m ≤ M) (hd : m ≤ delay + 1) (hpc : 0 < pc) (hpp : 0 < pp)
    (hclen : ∀ s e, AdmC m M s e → e ≤ n → (csav s e).length = pc) (hplen : ∀ t, t < n → (psav t).length = pp)
    (hcnn : ∀ s e, AdmC m M s e → e ≤ n → ∀ v ∈ csav s e, 0 ≤ v) (hpnn : ∀ t, t < n → ∀ v ∈ psav t, 0 ≤ v)
    (hsub : ∀ s e0 T, s + m ≤ e0 → e0 + m ≤ T → T ≤ s + M → T ≤ n →
      SubAdd (csav s T) (csav s e0) (csav e0 T))
    (okc : PenOK eps pc ca cb) (okp : PenOK eps pp pa pb)
    {PSs : Nat → Nat → α} {PPs : Nat → α}
    (hPSs : ∀ s e, AdmC m M s e → e ≤ n → IsBestSel (csav s e) ca cb (PSs s e))
    (hPPs : ∀ t, t < n → IsBestSel (psav t) pa pb (PPs t)) {e : Nat} (he : e ≤ n) :
    let PS := fun s e => penalise eps (csav s e) ca cb
    let PP := fun t => penalise eps (psav t) pa pb
    let st := capaIterG pick pr PS PP (ca + sumL cb) m M delay n
    let l := getAnoms st.astart (e + 1) e []
    (ValidAnoms m M 0 l e ∧ anomVal PSs PPs l = st.opt e ∧
      ∀ l', ValidAnoms m M 0 l' e → anomVal PSs PPs l' ≤ st.opt e) ∧
      0 ≤ st.opt e ∧ ∀ e', e' ≤ e → st.opt e' ≤ st.opt e := by
  intro PS PP st l
  have H : PruneIneq PS _ m M n := fun s e0 T h1 h2 h3 h4 =>
    have hsT : AdmC m M s T := ⟨by omega, h3⟩
    penalise_H hpc (hclen s T hsT h4) (hsub s e0 T h1 h2 h3 h4) okc
  obtain ⟨h0, hmono, _, _⟩ := capaG_backtrack hpick hpr PP hm hmM hd H
  exact ⟨capaG_backtrack_spec hpick hpr hm hmM hd H
      (fun s e h1 h2 => penalise_spec hpc (hclen s e h1 h2) (hcnn s e h1 h2) okc (hPSs s e h1 h2))
      (fun t ht => penalise_spec hpp (hplen t ht) (hpnn t ht) okp (hPPs t ht)) e he,
    h0 ▸ hmono 0 e (Nat.zero_le e) he, fun e' he' => hmono e' e he' he⟩

/-- **C03, hypotheses restricted to the intervals CAPA reads.**  As `capa_optimal_wrt_specification`, but
    the requirements on the savings (length `p`, non-negative, specification value) are asked only of
    collective candidates `[s, e)` with `m ≤ e - s ≤ M`, `e ≤ n` and of points `t < n` — the only
    intervals the recursion evaluates and the only ones an admissible anomaly set can contain.  This is
    the form needed for costs whose savings are well behaved on such intervals only (Gaussian costs above
    the variance floor). -/
theorem capa_optimal_wrt_specification_on (pick : (Nat → α) → List Nat → Nat) (pr : α → α → Bool)
    (hpick : SoundPickMax pick) (hpr : SoundPruneC pr) (eps : α) (csav : Nat → Nat → List α) (psav : Nat → List α)
    (ca pa : α) (cb pb : List α) (pc pp m M delay n : Nat)
    (hm : 2 ≤ m) (hmM : m ≤ M) (hd : m ≤ delay + 1) (hpc : 0 < pc) (hpp : 0 < pp)
    (hclen : ∀ s e, AdmC m M s e → e ≤ n → (csav s e).length = pc) (hplen : ∀ t, t < n → (psav t).length = pp)
    (hcnn : ∀ s e, AdmC m M s e → e ≤ n → ∀ v ∈ csav s e, 0 ≤ v) (hpnn : ∀ t, t < n → ∀ v ∈ psav t, 0 ≤ v)
    (hsub : ∀ s e0 T, s + m ≤ e0 → e0 + m ≤ T → T ≤ s + M → T ≤ n →
      SubAdd (csav s T) (csav s e0) (csav e0 T))
    (okc : PenOK eps pc ca cb) (okp : PenOK eps pp pa pb)
    (PSs : Nat → Nat → α) (PPs : Nat → α)
    (hPSs : ∀ s e, AdmC m M s e → e ≤ n → IsBestSel (csav s e) ca cb (PSs s e))
    (hPPs : ∀ t, t < n → IsBestSel (psav t) pa pb (PPs t)) :
    let PS := fun s e => penalise eps (csav s e) ca cb
    let PP := fun t => penalise eps (psav t) pa pb
    let r := runCapaG pick pr PS PP (ca + sumL cb) m M delay n
    ValidAnoms m M 0 r.2 n ∧ anomVal PSs PPs r.2 = r.1 n ∧
      ∀ l, ValidAnoms m M 0 l n → anomVal PSs PPs l ≤ r.1 n :=
  (capa_prefix_wrt_specification_on hpick hpr hm hmM hd hpc hpp hclen hplen hcnn hpnn hsub okc okp hPSs hPPs
    (le_refl n)).1

/-- **C03, full statement at model level.**  Let the collective / point savings of every interval be
    vectors of `p ≥ 1` non-negative column savings, sub-additive under splitting column by column,
    and let both `(alpha, betas)` pairs satisfy `PenOK` (non-negative terms; betas not in
    `(0, 1e-8)`).  Let `PSs`, `PPs` be the *specification's* penalised savings: for every interval the
    best, over non-empty sets of components, of the summed savings minus `alpha` (once) minus the
    betas of that many components (`IsBestSel`).  Then the model of `run_base_capa` driven by the
    code's `penalise_savings` (three branches) returns an admissible anomaly set whose total
    *specification* saving equals the reported final score, and no admissible set has a larger
    total specification saving.  (The equal-betas branch over-estimates candidates whose true value
    is below `-alpha`; such candidates are never selected because "no anomaly" wins ties.) -/
theorem capa_optimal_wrt_specification (pick : (Nat → α) → List Nat → Nat) (pr : α → α → Bool)
    (hpick : SoundPickMax pick) (hpr : SoundPruneC pr) (eps : α) (csav : Nat → Nat → List α) (psav : Nat → List α)
    (ca pa : α) (cb pb : List α) (p m M delay n : Nat)
    (hm : 2 ≤ m) (hmM : m ≤ M) (hd : m ≤ delay + 1) (hp : 0 < p)
    (hclen : ∀ s e, (csav s e).length = p) (hplen : ∀ t, (psav t).length = p)
    (hcnn : ∀ s e, ∀ v ∈ csav s e, 0 ≤ v) (hpnn : ∀ t, ∀ v ∈ psav t, 0 ≤ v)
    (hsub : ∀ s e0 T, s + m ≤ e0 → e0 + m ≤ T → T ≤ s + M → T ≤ n →
      SubAdd (csav s T) (csav s e0) (csav e0 T))
    (okc : PenOK eps p ca cb) (okp : PenOK eps p pa pb)
    (PSs : Nat → Nat → α) (PPs : Nat → α)
    (hPSs : ∀ s e, IsBestSel (csav s e) ca cb (PSs s e))
    (hPPs : ∀ t, IsBestSel (psav t) pa pb (PPs t)) :
    let PS := fun s e => penalise eps (csav s e) ca cb
    let PP := fun t => penalise eps (psav t) pa pb
    let r := runCapaG pick pr PS PP (ca + sumL cb) m M delay n
    ValidAnoms m M 0 r.2 n ∧ anomVal PSs PPs r.2 = r.1 n ∧
      ∀ l, ValidAnoms m M 0 l n → anomVal PSs PPs l ≤ r.1 n :=
  (capa_prefix_wrt_specification_on hpick hpr hm hmM hd hp hp (fun s e _ _ => hclen s e) (fun t _ => hplen t)
    (fun s e _ _ => hcnn s e) (fun t _ => hpnn t) hsub okc okp (fun s e _ _ => hPSs s e) (fun t _ => hPPs t)
    (le_refl n)).1

/-- **C03, scores against the specification**: under the same hypotheses every reported cumulative
    score is the maximum total *specification* saving over the admissible anomaly sets of that
    prefix (attained and an upper bound), hence non-negative and non-decreasing. -/
theorem capa_prefix_wrt_specification (pick : (Nat → α) → List Nat → Nat) (pr : α → α → Bool)
    (hpick : SoundPickMax pick) (hpr : SoundPruneC pr) (eps : α) (csav : Nat → Nat → List α) (psav : Nat → List α)
    (ca pa : α) (cb pb : List α) (p m M delay n : Nat)
    (hm : 2 ≤ m) (hmM : m ≤ M) (hd : m ≤ delay + 1) (hp : 0 < p)
    (hclen : ∀ s e, (csav s e).length = p) (hplen : ∀ t, (psav t).length = p)
    (hcnn : ∀ s e, ∀ v ∈ csav s e, 0 ≤ v) (hpnn : ∀ t, ∀ v ∈ psav t, 0 ≤ v)
    (hsub : ∀ s e0 T, s + m ≤ e0 → e0 + m ≤ T → T ≤ s + M → T ≤ n →
      SubAdd (csav s T) (csav s e0) (csav e0 T))
    (okc : PenOK eps p ca cb) (okp : PenOK eps p pa pb)
    (PSs : Nat → Nat → α) (PPs : Nat → α)
    (hPSs : ∀ s e, IsBestSel (csav s e) ca cb (PSs s e))
    (hPPs : ∀ t, IsBestSel (psav t) pa pb (PPs t)) (e : Nat) (he : e ≤ n) :
    let PS := fun s e => penalise eps (csav s e) ca cb
    let PP := fun t => penalise eps (psav t) pa pb
    let opt := (runCapaG pick pr PS PP (ca + sumL cb) m M delay n).1
    (∃ l, ValidAnoms m M 0 l e ∧ anomVal PSs PPs l = opt e) ∧
      (∀ l, ValidAnoms m M 0 l e → anomVal PSs PPs l ≤ opt e) ∧
      0 ≤ opt e ∧ ∀ e', e' ≤ e → opt e' ≤ opt e := by
  obtain ⟨⟨h1, h2, h3⟩, h4⟩ :=
    capa_prefix_wrt_specification_on hpick hpr hm hmM hd hp hp (fun s e _ _ => hclen s e) (fun t _ => hplen t)
      (fun s e _ _ => hcnn s e) (fun t _ => hpnn t) hsub okc okp (fun s e _ _ => hPSs s e) (fun t _ => hPPs t) he
  exact ⟨⟨_, h1, h2⟩, h3, h4⟩

/-- the scores and anomalies of CAPA / MVCAPA are functions of the penalised savings of the admissible
    intervals alone: two saving tables that agree on every collective candidate with `m ≤ e - s ≤ M`,
    `e ≤ n` and on every point `t < n` give identical output (`Lemmas/Congr.lean`) -/
theorem capa_output_depends_on_admissible_intervals (PS PS' : Nat → Nat → α) (PP PP' : Nat → α) (K : α)
    (m M delay n : Nat) (hm : 1 ≤ m) (hmM : m ≤ M)
    (h : ∀ s e, s + m ≤ e → e ≤ s + M → e ≤ n → PS s e = PS' s e) (hp : ∀ t, t < n → PP t = PP' t) :
    runCapa PS PP K m M delay n = runCapa PS' PP' K m M delay n :=
  runCapaG_congr_read argmaxL prLt pickExt_argmaxL pickMem_argmaxL PS PS' PP PP' K m M delay n hm hmM h hp

end group

/-! ### composed down to the data: squared-error, Gaussian and multivariate Gaussian savings -/

/-- **C03, squared-error saving, from the rows.**  For a series with `p ≥ 1` columns and the default
    `L2Saving` (per-column saving `(Σ x)² / len`, `l2Savings`), every hypothesis of
    `capa_optimal_wrt_specification` about the savings is a theorem — lengths, non-negativity
    (`l2Savings_nonneg`), column-wise sub-additivity under splitting (`l2Savings_subAdd`) — so for all
    data, all `PenOK` penalties and every policy of the family the reported anomalies are an admissible
    set whose total specification saving is the final score, and no admissible set saves more. -/
theorem capa_l2_optimal_wrt_specification (pick : (Nat → ℝ) → List Nat → Nat) (pr : ℝ → ℝ → Bool)
    (hpick : SoundPickMax pick) (hpr : SoundPruneC pr) (eps : ℝ) (X : ℕ → ℕ → ℝ)
    (ca pa : ℝ) (cb pb : List ℝ) (p m M delay n : Nat)
    (hm : 2 ≤ m) (hmM : m ≤ M) (hd : m ≤ delay + 1) (hp : 0 < p)
    (okc : PenOK eps p ca cb) (okp : PenOK eps p pa pb)
    (PSs : Nat → Nat → ℝ) (PPs : Nat → ℝ)
    (hPSs : ∀ s e, IsBestSel (l2Savings X p s e) ca cb (PSs s e))
    (hPPs : ∀ t, IsBestSel (l2Savings X p t (t + 1)) pa pb (PPs t)) :
    let PS := fun s e => penalise eps (l2Savings X p s e) ca cb
    let PP := fun t => penalise eps (l2Savings X p t (t + 1)) pa pb
    let r := runCapaG pick pr PS PP (ca + sumL cb) m M delay n
    ValidAnoms m M 0 r.2 n ∧ anomVal PSs PPs r.2 = r.1 n ∧
      ∀ l, ValidAnoms m M 0 l n → anomVal PSs PPs l ≤ r.1 n :=
  have hm1 : 1 ≤ m := Nat.le_of_succ_le hm
  (capa_prefix_wrt_specification_on hpick hpr hm hmM hd hp hp
    (fun s e _ _ => l2Savings_length X p s e) (fun t _ => l2Savings_length X p t (t + 1))
    (fun s e _ _ => l2Savings_nonneg X p s e) (fun t _ => l2Savings_nonneg X p t (t + 1))
    (fun s e0 T h1 h2 _ _ => l2Savings_subAdd X p s e0 T (lt_of_add_le hm1 h1) (lt_of_add_le hm1 h2))
    okc okp (fun s e _ _ => hPSs s e) (fun t _ => hPPs t) (le_refl n)).1

/-- **C03, Gaussian savings, from the rows.**  CAPA / MVCAPA with the per-column Gaussian saving
    (`Saving(GaussianVarCost(param=(μ, v)))`: fixed-parameter cost minus optimal cost, both from prefix
    sums, `gaussSavings`) for collective anomalies and the default squared-error saving for points.
    If the baseline variances are positive and every interval of at least `m` rows inside `[0, n]` has,
    in every column, an empirical variance at or above the floor `1e-16` (at the floor itself the claim
    is excluded by the property), then all hypotheses about the savings are theorems: non-negativity
    (`gaussTable_le_fixed`), column-wise sub-additivity under splitting (`gaussSavings_subAdd`: the
    fixed-parameter cost is additive, the optimal cost obeys the split inequality).  Hence for all such
    data, all `PenOK` penalties and every policy of the family the reported anomalies are an admissible
    set whose total specification saving is the final score, and no admissible set saves more. -/
theorem capa_gauss_optimal_wrt_specification (pick : (Nat → ℝ) → List Nat → Nat) (pr : ℝ → ℝ → Bool)
    (hpick : SoundPickMax pick) (hpr : SoundPruneC pr) (eps : ℝ) (X : ℕ → ℕ → ℝ) (μ v : ℕ → ℝ)
    (ca pa : ℝ) (cb pb : List ℝ) (p m M delay n : Nat)
    (hm : 2 ≤ m) (hmM : m ≤ M) (hd : m ≤ delay + 1) (hp : 0 < p)
    (hv : ∀ j, j < p → 0 < v j)
    (habove : ∀ j, j < p → ∀ a b, a + m ≤ b → b ≤ n → varFloorConst ≤ segVar (X j) a b)
    (okc : PenOK eps p ca cb) (okp : PenOK eps p pa pb)
    (PSs : Nat → Nat → ℝ) (PPs : Nat → ℝ)
    (hPSs : ∀ s e, AdmC m M s e → e ≤ n → IsBestSel (gaussSavings X μ v p s e) ca cb (PSs s e))
    (hPPs : ∀ t, t < n → IsBestSel (l2Savings X p t (t + 1)) pa pb (PPs t)) :
    let PS := fun s e => penalise eps (gaussSavings X μ v p s e) ca cb
    let PP := fun t => penalise eps (l2Savings X p t (t + 1)) pa pb
    let r := runCapaG pick pr PS PP (ca + sumL cb) m M delay n
    ValidAnoms m M 0 r.2 n ∧ anomVal PSs PPs r.2 = r.1 n ∧
      ∀ l, ValidAnoms m M 0 l n → anomVal PSs PPs l ≤ r.1 n :=
  (capa_prefix_wrt_specification_on hpick hpr hm hmM hd hp hp
    (fun s e _ _ => gaussSavings_length X μ v p s e) (fun t _ => l2Savings_length X p t (t + 1))
    (fun s e hadm hen => gaussSavings_nonneg X μ v p s e (hadm.lt (Nat.le_of_succ_le hm)) hv
      (fun j hj => habove j hj s e hadm.1 hen))
    (fun t _ => l2Savings_nonneg X p t (t + 1))
    (fun s e0 T h1 h2 _ h4 => gaussSavings_subAdd X μ v p m n s e0 T (Nat.le_of_succ_le hm) h1 h2 h4 habove)
    okc okp hPSs hPPs (le_refl n)).1

/-- **C03, multivariate Gaussian saving, from the rows.**  CAPA with the multivariate saving
    `Saving(GaussianCovCost(param=(μ, Σ)))` — one component per interval: fixed-parameter cost minus
    optimal cost, both defined from the rows (`gcovFixed`, `gcovCost`; `np.cov` / `slogdet` / `inv` in the
    code, tied numerically by C01 / C06) — for collective anomalies and the per-column squared-error saving
    for points.  If `Σ` is positive definite and every interval of at least `m` rows inside `[0, n]` has
    a positive definite sample covariance (otherwise the code raises its documented error), the
    hypotheses about the savings are theorems: non-negativity is `gcovCost_le_gcovFixed` (the log-det
    inequality), sub-additivity under splitting follows from `gcovFixed_add` and `gcovCost_split_le`. -/
theorem capa_gcov_optimal_wrt_specification {p : ℕ} (pick : (Nat → ℝ) → List Nat → Nat) (pr : ℝ → ℝ → Bool)
    (hpick : SoundPickMax pick) (hpr : SoundPruneC pr) (eps : ℝ) (x : ℕ → Fin p → ℝ) (X : ℕ → ℕ → ℝ)
    (μ : Fin p → ℝ) (Sg : Matrix (Fin p) (Fin p) ℝ)
    (ca pa : ℝ) (cb pb : List ℝ) (m M delay n : Nat)
    (hm : 2 ≤ m) (hmM : m ≤ M) (hd : m ≤ delay + 1) (hp : 0 < p)
    (hSg : Sg.PosDef) (hpd : ∀ a b, a + m ≤ b → b ≤ n → (covMat x a b).PosDef)
    (okc : PenOK eps 1 ca cb) (okp : PenOK eps p pa pb)
    (PSs : Nat → Nat → ℝ) (PPs : Nat → ℝ)
    (hPSs : ∀ s e, AdmC m M s e → e ≤ n →
      IsBestSel [gcovFixed x μ Sg s e - gcovCost x s e] ca cb (PSs s e))
    (hPPs : ∀ t, t < n → IsBestSel (l2Savings X p t (t + 1)) pa pb (PPs t)) :
    let PS := fun s e => penalise eps [gcovFixed x μ Sg s e - gcovCost x s e] ca cb
    let PP := fun t => penalise eps (l2Savings X p t (t + 1)) pa pb
    let r := runCapaG pick pr PS PP (ca + sumL cb) m M delay n
    ValidAnoms m M 0 r.2 n ∧ anomVal PSs PPs r.2 = r.1 n ∧
      ∀ l, ValidAnoms m M 0 l n → anomVal PSs PPs l ≤ r.1 n := by
  have hlt : ∀ {a b : ℕ}, a + m ≤ b → a < b := lt_of_add_le (Nat.le_of_succ_le hm)
  exact (capa_prefix_wrt_specification_on hpick hpr hm hmM hd Nat.one_pos hp
    (fun _ _ _ _ => rfl) (fun t _ => l2Savings_length X p t (t + 1))
    (fun s e hadm hen => List.forall_mem_singleton.2 <|
      sub_nonneg.2 (gcovCost_le_gcovFixed x μ Sg s e (hlt hadm.1) hSg (hpd s e hadm.1 hen)))
    (fun t _ => l2Savings_nonneg X p t (t + 1))
    (fun s e0 T h1 h2 _ h4 => (subAdd_singleton _ _ _).2 <|
      saving_subadd (gcovFixed_add x μ Sg s e0 T (hlt h1).le (hlt h2).le)
        (gcovCost_split_le x s e0 T (hlt h1) (hlt h2) (hpd s T (by omega) h4) (hpd s e0 h1 (by omega))
          (hpd e0 T h2 h4)))
    okc okp hPSs hPPs (le_refl n)).1

/-! ### Non-vacuity -/

/-- the penalty hypotheses are satisfiable: `alpha = 3`, equal betas `[2, 2]` for `p = 2` columns -/
example : PenOK (1 : Int) 2 3 [2, 2] :=
  ⟨by decide, by decide, by intro h; exact absurd (h 2 (by simp)) (by decide), by intro _; rfl⟩

/-- a concrete sub-additive penalised saving: `PS s e = (e - s) - 3`, `K = 3` -/
example : PruneIneq (fun s e => ((e : Int) - s) - 3) 3 2 5 12 := by
  intro s e0 T _ _ _ _; dsimp only; omega

example : (runCapa (fun s e => ((e : Int) - s) - 3) (fun t => if t = 9 then 2 else -1) 3 2 5 1 12).2
    = [(0, 4), (4, 9), (9, 10)] := by decide +kernel

/-- the floor hypothesis of `capa_gauss_optimal_wrt_specification` is satisfiable: the alternating series
    0, 1, 0, 1 has an empirical variance above the floor on every interval of at least two rows in `[0, 4]` -/
example : ∀ a b, a + 2 ≤ b → b ≤ 4 → varFloorConst ≤ segVar (fun i => ((i % 2 : ℕ) : ℝ)) a b := by
  intro a b h1 h2
  have ha : a ≤ 2 := Nat.le_of_add_le_add_right (h1.trans h2)
  interval_cases a <;> interval_cases b <;>
    simp only [segVar, segSum, varFloorConst, Finset.sum_Ico_eq_sum_range, Finset.sum_range_succ,
      Finset.sum_range_zero] <;> norm_num

end Skc
