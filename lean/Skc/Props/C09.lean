import Skc.Lemmas.GreedyGen
import Skc.Lemmas.Cbs
import Mathlib.Order.Lattice  -- fixes the `LinearOrder → LT` instance path the statements below elaborate to

/-! # C09 — circular binary segmentation reports greedy disjoint above-threshold anomalies

Models: `anomalyIntervals` (`make_anomaly_intervals`), `argmaxCands`, `greedyAnoms`
(`greedy_anomaly_selection`), `runCbs` — `Skc/Model/Det.lean`; the greedy loop `greedyGen` — `Skc/Model/Greedy.lean`. -/
namespace Skc

/-- **C09, threshold monotonicity**: raising the threshold can only remove anomalies. -/
theorem cbs_threshold_monotone {α : Type} [LinearOrder α] [Zero α]
    (ivs inner : List (Nat × Nat)) (thr₁ thr₂ : α) (h : thr₁ ≤ thr₂) (fuel : Nat)
    (scores : List α) :
    ∀ a ∈ greedyAnoms ivs inner thr₂ fuel scores, a ∈ greedyAnoms ivs inner thr₁ fuel scores :=
  fun _ ha => (greedyAnoms_prefix ivs inner thr₁ thr₂ h fuel scores).subset ha

/-- **C09, admissible inner intervals**: exactly the `[i, j)` of length `≥ m` strictly inside the
    candidate `[s, e)` that leave at least `m` surrounding samples. -/
theorem cbs_inner_intervals (s e m i j : Nat) :
    (i, j) ∈ anomalyIntervals s e m ↔
      s < i ∧ i + m ≤ j ∧ j < e ∧ m ≤ (e - j) + (i - s) :=
  mem_anomalyIntervals s e m i j

/-- a candidate has an admissible inner interval iff it is long enough: `e - s ≥ max(2m, 3)`
    (for `m ≥ 1`).  This is why candidates of length 2 (possible for `min_segment_length = 1`)
    are skipped with score 0. -/
theorem cbs_candidates_nonempty (s e m : Nat) (hm : 1 ≤ m) :
    anomalyIntervals s e m ≠ [] ↔ s + 2 * m ≤ e ∧ s + 3 ≤ e := by
  constructor
  · intro h
    obtain ⟨⟨i, j⟩, hij⟩ := List.exists_mem_of_ne_nil _ h
    obtain ⟨h1, h2, h3, h4⟩ := (mem_anomalyIntervals s e m i j).1 hij
    omega
  · rintro ⟨h1, h2⟩
    -- the shortest inner interval right after the start of the candidate
    exact List.ne_nil_of_mem ((mem_anomalyIntervals s e m (s + 1) (s + 1 + m)).2
      ⟨Nat.lt_succ_self s, Nat.le_refl _, by omega, by omega⟩)

/-- **C09, per-candidate score and inner interval**: maximum and argmax over the admissible inner
    intervals. -/
theorem cbs_candidate_argmax {α : Type} [LinearOrder α] (f : Nat × Nat → α)
    (l : List (Nat × Nat)) :
    (argmaxCands f l = none ↔ l = []) ∧
    ∀ c v, argmaxCands f l = some (c, v) → c ∈ l ∧ v = f c ∧ ∀ c' ∈ l, f c' ≤ v := by
  cases l with
  | nil => simp [argmaxCands]
  | cons c0 l =>
    rw [argmaxCands_cons]
    refine ⟨by simp, fun c v h => ?_⟩
    obtain ⟨rfl, rfl⟩ : _ = c ∧ _ = v := by simpa using h
    exact ⟨scan_mem _ f l c0, rfl, scan_lt_ge f l c0⟩

/-- **C09, greedy selection**: every reported anomaly scores above the threshold; every
    above-threshold candidate overlaps a reported anomaly; reported anomalies are pairwise
    disjoint. -/
theorem cbs_greedy {α : Type} [LinearOrder α] [Zero α]
    (ivs inner : List (Nat × Nat)) (scores : List α) (thr : α)
    (hthr : 0 ≤ thr) (hlen : scores.length = ivs.length)
    (hin : ∀ (i : Nat) (v : α), scores[i]? = some v → thr < v →
      (ivs.getD i (0, 0)).1 < (inner.getD i (0, 0)).1 ∧
      (inner.getD i (0, 0)).1 < (inner.getD i (0, 0)).2 ∧
      (inner.getD i (0, 0)).2 < (ivs.getD i (0, 0)).2) :
    let idx := greedyGen (killOverlap ivs inner) thr ivs.length scores
    (∀ i ∈ idx, ∃ v, scores[i]? = some v ∧ thr < v) ∧
    (∀ (j : Nat) (v : α), scores[j]? = some v → thr < v →
        ∃ i ∈ idx, (ivs.getD j (0, 0)).1 < (inner.getD i (0, 0)).2 ∧
          (inner.getD i (0, 0)).1 < (ivs.getD j (0, 0)).2) ∧
    idx.Pairwise (fun i i' =>
      (inner.getD i (0, 0)).2 ≤ (inner.getD i' (0, 0)).1 ∨
      (inner.getD i' (0, 0)).2 ≤ (inner.getD i (0, 0)).1) := by
  intro idx
  obtain ⟨h1, h2, h3⟩ := greedyGen_sound (killOverlap ivs inner) hthr ivs.length scores
    (fun i v hi hv => by
      obtain ⟨g1, g2, g3⟩ := hin i v hi hv
      exact killOverlap_eq_true.2 ⟨Nat.lt_trans g1 g2, Nat.lt_trans g2 g3⟩)
    (hlen ▸ List.countP_le_length)
  refine ⟨h1, fun j v hj hv => ?_, (List.Pairwise.and_mem.1 h3).imp fun {i i'} ⟨_, hi', hk⟩ => ?_⟩
  · obtain ⟨i, hi1, hi2⟩ := h2 j v hj hv
    exact ⟨i, hi1, killOverlap_eq_true.1 hi2⟩
  · -- the later pick's inner interval lies inside its candidate, which the earlier pick did not kill
    obtain ⟨v', hv1, hv2⟩ := h1 i' hi'
    exact disjoint_of_not_overlap (hin i' v' hv1 hv2)
      (fun h => Bool.false_ne_true (hk ▸ killOverlap_eq_true.2 h))

example : anomalyIntervals 0 6 2 = [(1, 3), (1, 4), (1, 5), (2, 4), (2, 5), (3, 5)] := by decide

end Skc
