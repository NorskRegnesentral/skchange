import Skc.Spec.Kernels
import Skc.Model.Basic
import Skc.Lemmas.Quantile
import Skc.Lemmas.Segmentation
import Mathlib.Tactic.Ring
import Mathlib.Tactic.Positivity
import Mathlib.Tactic.Linarith

/-! # C15 — thresholds and penalties follow their documented formulas and act monotonically

Formulas: `Skc.CF.*` (`Skc/Spec/Kernels.lean`); the definitions regenerated from /repo are proved
equal to them in `Skc/L1/Formulas.lean` (obligations of this property).  `combined` is modelled on
lists (`cumsum`, pointwise `min`, `diff`).  Not proved: anything about the intermediate family,
which depends on SciPy's χ² quantile and density (uninterpreted); the combined family's properties
are proved *given* a non-negative non-decreasing intermediate cumulative penalty. -/
namespace Skc

/-! ### fitted value = scale × default -/

/-- model of the `_get_threshold` / `_get_penalty` methods: the fitted value is taken to be
    `scale * default(n, p, …)`.  This is the modelling assumption (tied to the code numerically on a parameter
    grid by the C15 correspondence), not a theorem about the code; what follows from it is proportionality
    to the scale. -/
def fitted (scale dflt : ℝ) : ℝ := scale * dflt

theorem fitted_proportional (c scale dflt : ℝ) : fitted (c * scale) dflt = c * fitted scale dflt := by
  unfold fitted; ring

/-! ### CAPA's collective penalty and the dense / sparse families -/

theorem capaPenalty_proportional (n k c scale : ℝ) :
    CF.capaPenalty n k (c * scale) = c * CF.capaPenalty n k scale := by
  unfold CF.capaPenalty; ring

theorem capaPenalty_eq_scale_mul (n k scale : ℝ) :
    CF.capaPenalty n k scale = scale * CF.capaPenalty n k 1 := by
  unfold CF.capaPenalty; ring

/-- non-negative for `scale ≥ 0`, `k ≥ 0` parameters, `n ≥ 1` samples -/
theorem capaPenalty_nonneg (n k scale : ℝ) (hs : 0 ≤ scale) (hk : 0 ≤ k) (hn : 1 ≤ n) :
    0 ≤ CF.capaPenalty n k scale := by
  unfold CF.capaPenalty
  have hl : 0 ≤ Real.log n := Real.log_nonneg hn
  positivity

/-- the sparse family's terms are non-negative for `n ≥ 1`, `k p ≥ 1` -/
theorem sparse_terms_nonneg (n kp scale : ℝ) (hs : 0 ≤ scale) (hn : 1 ≤ n) (hkp : 1 ≤ kp) :
    0 ≤ scale * (2 * Real.log n) ∧ 0 ≤ scale * (2 * Real.log kp) := by
  have h1 : 0 ≤ Real.log n := Real.log_nonneg hn
  have h2 : 0 ≤ Real.log kp := Real.log_nonneg hkp
  constructor <;> positivity

/-- cumulative penalty for `j` components of a family with constant per-component term `β ≥ 0`
    (dense: `β = 0`; sparse: `β = 2 scale log(kp)`): non-decreasing in `j` -/
theorem constant_beta_monotone (alpha beta : ℝ) (hb : 0 ≤ beta) (j j' : ℕ) (h : j ≤ j') :
    alpha + j * beta ≤ alpha + j' * beta :=
  add_le_add_right (mul_le_mul_of_nonneg_right (Nat.cast_le.2 h) hb) _

/-! ### the combined family: cumsum / pointwise minimum / diff -/

/-- the pointwise minimum of two non-decreasing sequences is non-decreasing -/
theorem zipWith_min_monotone {α : Type} [LinearOrder α] (a b : List α) (ha : a.Pairwise (· ≤ ·)) (hb : b.Pairwise (· ≤ ·)) :
    (List.zipWith min a b).Pairwise (· ≤ ·) := by
  rw [List.pairwise_iff_getElem] at *
  intro i j hi hj hij
  rw [List.length_zipWith, lt_min_iff] at hi hj
  rw [List.getElem_zipWith, List.getElem_zipWith]
  exact min_le_min (ha i j hi.1 hj.1 hij) (hb i j hi.2 hj.2 hij)

section combined
variable {α : Type} [AddCommGroup α]

/-- `np.diff(l, prepend = prev)` -/
def diffFrom : α → List α → List α
  | _, [] => []
  | prev, a :: t => (a - prev) :: diffFrom a t

/-- `cumsum ∘ diff = id`: the cumulative sums of the combined betas are the pointwise minimum -/
theorem cumsum_diffFrom (prev : α) (l : List α) : cumsumFrom prev (diffFrom prev l) = l := by
  induction l generalizing prev with
  | nil => rfl
  | cons a t ih => simp only [diffFrom, cumsumFrom, add_sub_cancel, ih]

variable [LinearOrder α] [IsOrderedAddMonoid α]

/-- betas of a non-decreasing cumulative penalty that starts at or above `prev` are non-negative -/
theorem diffFrom_nonneg (prev : α) (l : List α) (h : (prev :: l).Pairwise (· ≤ ·)) :
    ∀ b ∈ diffFrom prev l, 0 ≤ b := by
  induction l generalizing prev with
  | nil => nofun
  | cons a t ih =>
    obtain ⟨h1, h2⟩ := List.pairwise_cons.1 h
    exact List.forall_mem_cons.2 ⟨sub_nonneg.2 (h1 a List.mem_cons_self), ih a h2⟩

/-- **C15, combined family**: with `D`, `S`, `I` the cumulative dense, sparse and intermediate
    penalties for 1, …, p components, the combined betas `diff(0 :: min D S I)` have cumulative
    sums equal to the pointwise minimum, and are non-negative whenever the three cumulative
    penalties are non-negative and non-decreasing. -/
theorem combined_family (D S I : List α)
    (hD : D.Pairwise (· ≤ ·)) (hS : S.Pairwise (· ≤ ·)) (hI : I.Pairwise (· ≤ ·))
    (h0 : ∀ x ∈ List.zipWith min D (List.zipWith min S I), 0 ≤ x) :
    let M := List.zipWith min D (List.zipWith min S I)
    cumsumFrom 0 (diffFrom 0 M) = M ∧ M.Pairwise (· ≤ ·) ∧ ∀ b ∈ diffFrom 0 M, 0 ≤ b := by
  intro M
  have hM : M.Pairwise (· ≤ ·) := zipWith_min_monotone D _ hD (zipWith_min_monotone S I hS hI)
  exact ⟨cumsum_diffFrom 0 M, hM, diffFrom_nonneg 0 M (List.pairwise_cons.2 ⟨h0, hM⟩)⟩

end combined

/-! ### tuned thresholds -/

/-- **C15, tuned threshold** (`np.quantile(scores, 1 - level, method="higher")`): the threshold is
    the sorted score at an index `idx ≥ (N-1)(1-level)`, so at most `level · N` of the `N` training
    scores exceed it. -/
theorem tuned_threshold_bound (l : List ℝ) (hl : l.Pairwise (· ≤ ·)) (idx : Nat)
    (h : idx < l.length) (level : ℝ) (hlev : 0 ≤ level)
    (hidx : ((l.length : ℝ) - 1) * (1 - level) ≤ (idx : ℝ)) :
    ((l.filter (fun x => decide (l[idx] < x))).length : ℝ) ≤ level * (l.length : ℝ) :=
  tuned_threshold_exceedance l hl idx h level hlev hidx

/-! ### PELT: a larger penalty never increases the number of changepoints -/

/-- **C15, PELT**: if `c₁` minimises the penalised cost for `β₁` and `c₂` for `β₂ > β₁` (C02 says
    PELT returns such minimisers), then `c₂` has at most as many changepoints as `c₁`. -/
theorem pelt_penalty_monotone (cost : Nat → Nat → ℝ) (n : Nat) (β₁ β₂ : ℝ) (hβ : β₁ < β₂)
    (c₁ c₂ : List Nat)
    (h₁ : segCost cost β₁ 0 c₁ n ≤ segCost cost β₁ 0 c₂ n)
    (h₂ : segCost cost β₂ 0 c₂ n ≤ segCost cost β₂ 0 c₁ n) :
    c₂.length ≤ c₁.length := by
  rw [segCost_eq_raw cost β₁, segCost_eq_raw cost β₁] at h₁
  rw [segCost_eq_raw cost β₂, segCost_eq_raw cost β₂] at h₂
  -- exchange argument: the two optimality inequalities add up to `k₂ (β₂ − β₁) ≤ k₁ (β₂ − β₁)`
  have h : (c₂.length : ℝ) * (β₂ - β₁) ≤ c₁.length * (β₂ - β₁) := by linear_combination h₁ + h₂
  exact Nat.cast_le.1 (le_of_mul_le_mul_right h (sub_pos.2 hβ))

end Skc
