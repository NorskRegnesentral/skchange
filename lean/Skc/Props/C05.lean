import Skc.Lemmas.Conv
import Skc.Lemmas.ConvCp
import Skc.Lemmas.ConvSub

/-! # C05 — dense labels and sparse detections describe the same events

Models (`Skc/Model/Conv.lean`): position-based `collS2D`/`collD2S` (collective anomalies),
`cpS2D`/`cpD2S` (change detectors), `subS2D`/`subD2S` (subset anomalies, MVCAPA).  The index of the
data is *not* an input of these functions: dense labels depend on positions only, which is the
model-level content of "whatever the type or values of X's index" (tied to the code by running
the implementation under five index types). -/
namespace Skc

/-! ### collective anomalies -/

/-- a position not covered by any anomaly is labelled 0 -/
theorem coll_label_uncovered : ∀ (anoms : List (Nat × Nat)) (k i : Nat),
    (∀ a ∈ anoms, ¬ (a.1 ≤ i ∧ i < a.2)) → labelAt anoms k i = 0 :=
  labelAt_eq_zero

/-- **C05, collective anomalies, round trip**: any valid sparse output (sorted, pairwise disjoint,
    non-empty intervals inside `[0,n]`; adjacent intervals, length-1 intervals and intervals
    touching 0 or n included) survives sparse → dense → sparse unchanged. -/
theorem coll_dense_sparse_roundtrip (anoms : List (Nat × Nat)) (n : Nat) (h : ValidIv 0 anoms n) :
    collD2S (collS2D anoms n) = anoms := by
  rw [collD2S, collS2D, List.range_eq_range']
  exact coll_roundtrip_aux anoms 0 0 n h

/-- **C05, collective anomalies, dense labels**: a position covered by the `j`-th anomaly of a valid
    sparse output is labelled `j + 1`. -/
theorem coll_label_covered : ∀ (anoms : List (Nat × Nat)) (lo n k j i : Nat) (s e : Nat),
    ValidIv lo anoms n → anoms[j]? = some (s, e) → s ≤ i → i < e → labelAt anoms k i = k + j + 1 := by
  intro anoms lo n k j i s e hv h h1 h2
  induction anoms generalizing lo k j with
  | nil => cases h
  | cons a rest ih =>
    rw [labelAt]
    cases j with
    | zero =>
      cases h
      rw [if_pos ⟨h1, h2⟩]
    | succ j =>
      have hlo : a.2 ≤ i :=
        Nat.le_trans (validIv_lb a.2 rest n hv.2.2 (s, e) (List.mem_of_getElem? h)) h1
      rw [if_neg fun hc => Nat.not_lt.2 hlo hc.2, ih a.2 (k + 1) j hv.2.2 h,
        Nat.add_right_comm k 1 j]
      rfl

/-! ### change detectors -/

/-- **C05, change detectors, round trip** for strictly increasing changepoints in `[1, n-1]`
    (changepoints at 1 and at `n-1`, adjacent changepoints included). -/
theorem cp_dense_sparse_roundtrip (cps : List Nat) (n : Nat) (h : ValidCps cps n) :
    cpD2S (cpS2D cps n) = cps := by
  have hf := h.filter_mem_eq
  cases n with
  | zero => exact hf
  | succ n =>
    rw [cpS2D, List.range_eq_range', List.range'_succ]
    refine (cpD2SAux_map (segNo cps) n 0).trans (Eq.trans (List.filter_congr fun t ht => ?_) hf)
    obtain ⟨t, rfl⟩ := Nat.exists_eq_add_of_le' (List.mem_range'_1.1 ht).1
    simp [segNo_succ, List.count_eq_zero]

/-- **C05, change detectors, dense labels**: position `i` carries the number of its segment. -/
theorem cp_dense_label (cps : List Nat) (n i : Nat) (hi : i < n) :
    (cpS2D cps n)[i]? = some (segNo cps i) := by
  simp [cpS2D, segNo, hi]

/-! ### subset anomalies (MVCAPA) -/

/-- **C05, subset anomalies, dense labels**: cell `(i, j)` carries label `k+1` exactly when row `i`
    lies in the `k`-th anomaly and column `j` is one of its affected columns … -/
theorem sub_label_iff (anoms : List ((Nat × Nat) × List Nat)) (n p k i j : Nat)
    (hk : k < anoms.length) (h : ValidSub 0 anoms n p) :
    subLabelAt anoms 0 i j = k + 1 ↔
      (anoms[k]).1.1 ≤ i ∧ i < (anoms[k]).1.2 ∧ j ∈ (anoms[k]).2 := by
  constructor
  · intro hl
    obtain ⟨idx, _, hv, hc⟩ := subLabelAt_val anoms 0 i j (hl ▸ Nat.succ_ne_zero k)
    obtain rfl : idx = k := by omega
    exact hc
  · rintro ⟨h1, h2, h3⟩
    rw [subLabelAt_cov anoms 0 n p 0 k i j h hk h1 h2 h3, Nat.zero_add]

/-- … and label 0 exactly when no anomaly covers the cell -/
theorem sub_label_zero_iff (anoms : List ((Nat × Nat) × List Nat)) (n p i j : Nat)
    (h : ValidSub 0 anoms n p) :
    subLabelAt anoms 0 i j = 0 ↔
      ∀ k, ∀ hk : k < anoms.length, ¬ ((anoms[k]).1.1 ≤ i ∧ i < (anoms[k]).1.2 ∧ j ∈ (anoms[k]).2) := by
  constructor
  · intro h0 k hk hc
    exact Nat.succ_ne_zero k (((sub_label_iff anoms n p k i j hk h).2 hc).symm.trans h0)
  · intro hall
    by_contra hne
    obtain ⟨idx, hidx, _, hc⟩ := subLabelAt_val anoms 0 i j hne
    exact hall idx hidx hc

/-- **C05, subset anomalies (MVCAPA), round trip**: any valid sparse output (rows sorted, pairwise
    disjoint, non-empty, inside `[0,n]`, adjacent allowed; affected columns non-empty, strictly
    increasing, below `p`) survives sparse → dense → sparse unchanged, columns included.
    The label values present are `1..K`; value `idx + 1` sits exactly on the rows and columns of the
    `idx`-th anomaly, and its first row with any of its columns is a cell that carries it. -/
theorem sub_dense_sparse_roundtrip (anoms : List ((Nat × Nat) × List Nat)) (n p : Nat)
    (h : ValidSub 0 anoms n p) : subD2S (subS2D anoms n p) p = anoms := by
  refine subD2S_matOf (subLabelAt anoms 0) n p anoms h (fun i j => ?_)
    fun k hk i j => sub_label_iff anoms n p k i j hk h
  by_cases h0 : subLabelAt anoms 0 i j = 0
  · rw [h0]
    exact Nat.zero_le _
  · obtain ⟨idx, hidx, hv, _⟩ := subLabelAt_val anoms 0 i j h0
    rw [hv, Nat.zero_add]
    exact hidx

/-- non-vacuity: adjacent anomalies, a point anomaly, anomalies touching both ends -/
example : ValidIv 0 [(0, 2), (2, 3), (5, 8)] 8 := by simp only [ValidIv]; decide
example : collS2D [(0, 2), (2, 3), (5, 8)] 8 = [1, 1, 2, 0, 0, 3, 3, 3] := by decide +kernel
example : ValidCps [1, 2, 7] 8 := by unfold ValidCps; decide
example : ValidSub 0 [((0, 2), [1]), ((2, 3), [0, 2]), ((5, 8), [0, 1, 2])] 8 3 := by
  simp only [ValidSub]; decide
example : subS2D [((0, 2), [1]), ((2, 3), [0, 2])] 4 3 = [[0, 1, 0], [0, 1, 0], [2, 0, 2], [0, 0, 0]] := by decide +kernel

end Skc
