import Skc.Model.Anomaliser
import Skc.Props.C05
import Skc.Props.C04

/-! # C17 — StatThresholdAnomaliser flags exactly the out-of-range segments

Model: `statAnoms` (`Skc/Model/Anomaliser.lean`).  The statistic is an arbitrary function of the
segment (the user's callable applied to the rows `[s, e)`), the bounds arbitrary.  That the user's
detector object is left unfitted and unaltered (a clone is fitted) is an object-model fact checked
by the harness. -/
namespace Skc
variable {α : Type} [LT α] [DecidableLT α]

/-- **C17**: for valid changepoints (strictly increasing, in `[1, n-1]`) the reported anomalies are
    exactly the segments `[c_i, c_{i+1})` delimited by the wrapped detector's changepoints whose
    statistic is below `lo` or above `hi`. -/
theorem anomaliser_flags_out_of_range_segments (stat : Nat → Nat → α) (lo hi : α)
    (cps : List Nat) (n : Nat) (hn : 1 ≤ n) (h : ValidCps cps n) :
    statAnoms stat lo hi cps n = (segmentsFrom 0 cps n).filter (flagged stat lo hi) := by
  have hlen : (cpS2D cps n).length = n := by rw [cpS2D, List.length_map, List.length_range]
  have hne : (cpS2D cps n).isEmpty = false :=
    List.isEmpty_eq_false_iff.2 (List.ne_nil_of_length_pos (Nat.lt_of_lt_of_eq hn hlen.symm))
  rw [statAnoms, labelGroups, hne, cp_dense_sparse_roundtrip cps n h, hlen]
  rfl

/-- **C17**: each flagged segment is reported as its own interval, in order — the output is a
    sublist of the segment list, so adjacent flagged segments are never merged -/
theorem anomaliser_output_sublist (stat : Nat → Nat → α) (lo hi : α)
    (cps : List Nat) (n : Nat) (hn : 1 ≤ n) (h : ValidCps cps n) :
    (statAnoms stat lo hi cps n).Sublist (segmentsFrom 0 cps n) := by
  rw [anomaliser_flags_out_of_range_segments stat lo hi cps n hn h]
  exact List.filter_sublist

/-- the segments delimited by valid changepoints are consecutive, non-empty and inside `[s, n]` -/
theorem segmentsFrom_wf : ∀ (cps : List Nat) (s n : Nat), cps.Pairwise (· < ·) →
    (∀ c ∈ cps, s < c ∧ c < n) → s < n →
    (segmentsFrom s cps n).Pairwise (fun a b => a.2 ≤ b.1) ∧
      ∀ a ∈ segmentsFrom s cps n, s ≤ a.1 ∧ a.1 < a.2 ∧ a.2 ≤ n := by
  intro cps s n hp hb hsn
  induction cps generalizing s with
  | nil =>
    refine ⟨List.pairwise_singleton _ _, fun a ha => ?_⟩
    rw [List.mem_singleton.1 ha]
    exact ⟨Nat.le_refl _, hsn, Nat.le_refl _⟩
  | cons c cs ih =>
    obtain ⟨hc1, hc2⟩ := hb c List.mem_cons_self
    obtain ⟨hcs, hp'⟩ := List.pairwise_cons.1 hp
    obtain ⟨ih1, ih2⟩ := ih c hp'
      (fun x hx => ⟨hcs x hx, (hb x (List.mem_cons_of_mem c hx)).2⟩) hc2
    refine ⟨List.pairwise_cons.2 ⟨fun b hb' => (ih2 b hb').1, ih1⟩, fun a ha => ?_⟩
    rcases List.mem_cons.1 ha with rfl | ha
    · exact ⟨Nat.le_refl _, hc1, Nat.le_of_lt hc2⟩
    · exact ⟨Nat.le_trans (Nat.le_of_lt hc1) (ih2 a ha).1, (ih2 a ha).2⟩

/-- **C17 / C04**: the anomaliser's output is sorted, pairwise disjoint, and made of non-empty
    intervals inside `[0, n]` -/
theorem anomaliser_output_wellformed (stat : Nat → Nat → α) (lo hi : α)
    (cps : List Nat) (n : Nat) (hn : 1 ≤ n) (h : ValidCps cps n) :
    (statAnoms stat lo hi cps n).Pairwise (fun a b => a.2 ≤ b.1) ∧
      ∀ a ∈ statAnoms stat lo hi cps n, a.1 < a.2 ∧ a.2 ≤ n := by
  obtain ⟨w1, w2⟩ := segmentsFrom_wf cps 0 n h.1 h.2 hn
  have hsub := anomaliser_output_sublist stat lo hi cps n hn h
  exact ⟨w1.sublist hsub, fun a ha => (w2 a (hsub.subset ha)).2⟩

/-- **C17 composed with C02/C04**: the hypothesis "valid changepoints" is a theorem for the default
    wrapped detector — PELT's output is strictly increasing inside `[1, n-1]` — so the anomaliser over
    PELT flags exactly the out-of-range segments of PELT's segmentation, for every cost table with the
    split inequality -/
theorem anomaliser_over_pelt {β : Type} [AddCommGroup β] [LinearOrder β] [IsOrderedAddMonoid β]
    (stat : Nat → Nat → α) (lo hi : α) (cost : Nat → Nat → β) (pen : β) (m n : Nat)
    (hm : 1 ≤ m) (hn : 2 * m ≤ n) (hsplit : SplitIneq cost m n) :
    let cps := (runPeltCode cost pen m n).2
    ValidCps cps n ∧
      statAnoms stat lo hi cps n = (segmentsFrom 0 cps n).filter (flagged stat lo hi) := by
  intro cps
  obtain ⟨h1, h2⟩ := pelt_changepoints_wellformed cost pen m n hm hn hsplit
  -- spacing `m ≥ 1` makes the changepoints strictly increasing, `m ≤ c ≤ n - m` puts them in `[1, n-1]`
  have hv : ValidCps cps n :=
    ⟨h1.imp (lt_of_add_le hm),
      fun c hc => ⟨Nat.le_trans hm (h2 c hc).1, lt_of_add_le hm (h2 c hc).2⟩⟩
  have hn1 : 1 ≤ n := by omega
  exact ⟨hv, anomaliser_flags_out_of_range_segments stat lo hi cps n hn1 hv⟩

theorem flagged_iff (stat : Nat → Nat → α) (lo hi : α) (seg : Nat × Nat) :
    flagged stat lo hi seg = true ↔ stat seg.1 seg.2 < lo ∨ hi < stat seg.1 seg.2 := by
  simp [flagged]

/-- non-vacuity: two adjacent flagged segments stay separate -/
example : statAnoms (fun s e => ((e : Int) - s)) 2 3 [1, 5] 8 = [(0, 1), (1, 5)] := by decide +kernel

end Skc
