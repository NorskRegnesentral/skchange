import Skc.Props.C02
import Skc.Props.C03
import Skc.Props.C07
import Skc.Props.C09
import Skc.Lemmas.Where

/-! # C04 — detections are well-formed and respect the configured length limits

Corollaries of the algorithm theorems, stated on the models' outputs.  Output formatting by pandas
(`RangeIndex(0..K-1)`, `int64`, left-closed `IntervalIndex`, labels `1..K`) is observed by the
correspondence checks, not modelled. -/
namespace Skc

/-! ### PELT -/

/-- what `ValidFrom` says elementwise: strictly increasing, every changepoint at least `m` from
    both ends, consecutive changepoints at least `m` apart -/
theorem validFrom_elementwise (m : Nat) (hm : 1 ≤ m) : ∀ (cps : List Nat) (s e : Nat),
    ValidFrom m s cps e →
      cps.Pairwise (fun a b => a + m ≤ b) ∧ ∀ c ∈ cps, s + m ≤ c ∧ c + m ≤ e := by
  intro cps
  induction cps with
  | nil => intro _ _ _; simp
  | cons c cs ih =>
    intro s e ⟨h1, h2⟩
    obtain ⟨ih1, ih2⟩ := ih c e h2
    have hce := validFrom_start_le m c cs e h2
    exact ⟨List.pairwise_cons.2 ⟨fun b hb => (ih2 b hb).1, ih1⟩, List.forall_mem_cons.2
      ⟨⟨h1, hce⟩, fun x hx => (ih2 x hx).imp_left fun g => by omega⟩⟩

/-- **C04, PELT**: the changepoints are strictly increasing integers in `[m, n - m] ⊆ [1, n-1]`
    and leave every segment, including the first and last, at least `m` long. -/
theorem peltG_changepoints_wellformed {α : Type} [AddCommGroup α] [LinearOrder α]
    [IsOrderedAddMonoid α] (pick : (Nat → α) → List Nat → Nat) (pr : α → α → Bool)
    (hpick : SoundPick pick) (hpr : SoundPrune pr) (cost : Nat → Nat → α) (pen : α) (m delay n : Nat)
    (hm : 1 ≤ m) (hd : m ≤ delay + 1) (hn : 2 * m ≤ n) (hsplit : SplitIneq cost m n) :
    let cps := (runPelt pick pr cost pen m delay n).2
    cps.Pairwise (fun a b => a + m ≤ b) ∧ ∀ c ∈ cps, m ≤ c ∧ c + m ≤ n := by
  intro cps
  have := validFrom_elementwise m hm cps 0 n
    (pelt_optimal pick pr hpick hpr cost pen m delay n hm hd hn hsplit).1
  rwa [Nat.zero_add] at this

/-- the code's policy (first minimiser, strict pruning test, delay `m − 1`) -/
theorem pelt_changepoints_wellformed {α : Type} [AddCommGroup α] [LinearOrder α]
    [IsOrderedAddMonoid α] (cost : Nat → Nat → α) (pen : α) (m n : Nat)
    (hm : 1 ≤ m) (hn : 2 * m ≤ n) (hsplit : SplitIneq cost m n) :
    let cps := (runPeltCode cost pen m n).2
    cps.Pairwise (fun a b => a + m ≤ b) ∧ ∀ c ∈ cps, m ≤ c ∧ c + m ≤ n :=
  peltG_changepoints_wellformed argminL prStrict soundPick_argminL soundPrune_strict cost pen m (m - 1) n
    hm le_tsub_add hn hsplit

/-! ### CAPA / MVCAPA -/

/-- what `ValidAnoms` says elementwise -/
theorem validAnoms_elementwise (m M : Nat) : ∀ (l : List (Nat × Nat)) (lo hi : Nat),
    ValidAnoms m M lo l hi →
      l.Pairwise (fun a b => a.2 ≤ b.1) ∧
      ∀ a ∈ l, lo ≤ a.1 ∧ a.2 ≤ hi ∧ (a.2 = a.1 + 1 ∨ (a.1 + m ≤ a.2 ∧ a.2 ≤ a.1 + M)) :=
  fun _ _ _ h => h.members

/-- **C04, CAPA / MVCAPA**: anomalies are sorted, pairwise disjoint, non-empty intervals inside
    `[0, n]`; collective anomalies have length in `[m, M]`, point anomalies length 1. -/
theorem capaG_anomalies_wellformed {α : Type} [AddCommGroup α] [LinearOrder α]
    [IsOrderedAddMonoid α] (pick : (Nat → α) → List Nat → Nat) (pr : α → α → Bool)
    (hpick : SoundPickMax pick) (hpr : SoundPruneC pr)
    (PS : Nat → Nat → α) (PP : Nat → α) (K : α) (m M delay n : Nat)
    (hm : 2 ≤ m) (hmM : m ≤ M) (hd : m ≤ delay + 1) (H : PruneIneq PS K m M n) :
    let an := (runCapaG pick pr PS PP K m M delay n).2
    an.Pairwise (fun a b => a.2 ≤ b.1) ∧
    ∀ a ∈ an, a.2 ≤ n ∧ a.1 < a.2 ∧ (a.2 = a.1 + 1 ∨ (a.1 + m ≤ a.2 ∧ a.2 ≤ a.1 + M)) := by
  intro an
  obtain ⟨h1, h2⟩ := (capaG_optimal pick pr hpick hpr PS PP K m M delay n hm hmM hd H).1.members
  refine ⟨h1, fun a ha => ?_⟩
  obtain ⟨_, g2, g3⟩ := h2 a ha
  exact ⟨g2, by omega, g3⟩

/-- the code's policy (first maximiser, strict pruning test) -/
theorem capa_anomalies_wellformed {α : Type} [AddCommGroup α] [LinearOrder α]
    [IsOrderedAddMonoid α] (PS : Nat → Nat → α) (PP : Nat → α) (K : α) (m M delay n : Nat)
    (hm : 2 ≤ m) (hmM : m ≤ M) (hd : m ≤ delay + 1) (H : PruneIneq PS K m M n) :
    let an := (runCapa PS PP K m M delay n).2
    an.Pairwise (fun a b => a.2 ≤ b.1) ∧
    ∀ a ∈ an, a.2 ≤ n ∧ a.1 < a.2 ∧ (a.2 = a.1 + 1 ∨ (a.1 + m ≤ a.2 ∧ a.2 ≤ a.1 + M)) :=
  capaG_anomalies_wellformed argmaxL prLt soundPickMax_argmaxL soundPruneC_lt PS PP K m M delay n hm hmM hd H

/-! ### Seeded binary segmentation -/

/-- **C04, seeded binary segmentation**: a changepoint that maximises an interval inside `[0,n]`
    lies in `[m, n-m]`; two picked changepoints are at least `m` apart (`sbs_min_gap`, C07). -/
theorem sbs_changepoint_in_range {α : Type} [LinearOrder α] [Zero α]
    (cs : Nat → Nat → Nat → α) (m n : Nat) (iv : Nat × Nat) (k : Nat) (v : α)
    (hiv : iv.2 ≤ n) (h : amoc cs m iv = some (k, v)) : m ≤ k ∧ k + m ≤ n := by
  obtain ⟨h1, h2, _, _⟩ := (amoc_spec cs m iv).2 k v h
  omega

/-! ### Circular binary segmentation -/

/-- **C04, circular binary segmentation**: every admissible inner interval has length `≥ m` and
    lies strictly inside the data; reported anomalies are pairwise disjoint (`cbs_greedy`, C09). -/
theorem cbs_anomaly_strictly_inside (s e m n i j : Nat) (he : e ≤ n)
    (h : (i, j) ∈ anomalyIntervals s e m) : 0 < i ∧ j < n ∧ i + m ≤ j := by
  have := (mem_anomalyIntervals s e m i j).1 h
  omega

/-! ### Moving window -/

/-- **C04, moving window**: a position whose score exceeds a threshold `≥ 0` lies in
    `[bandwidth, n - bandwidth]` (scores are 0 elsewhere), hence so does every changepoint, which
    is a position of such a run. -/
theorem mw_above_threshold_in_band {α : Type} [LinearOrder α] [Zero α]
    (cs : Nat → Nat → Nat → α) (n b t : Nat) (thr : α) (hthr : 0 ≤ thr)
    (h : thr < mwScores cs n b 0 t) : b ≤ t ∧ t + b ≤ n := by
  by_contra hc
  simp only [mwScores, hc, if_false] at h
  exact absurd h (not_lt.2 hthr)

end Skc
