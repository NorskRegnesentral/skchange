import Skc.Lemmas.MwRev

/-! # C08 — moving window: symmetric two-sided scores and peak-of-run detections

Models: `mwScores` (`moving_window_transform`), `whereRuns` (`utils.numba.general.where`),
`mwCpts` (`get_moving_window_changepoints`) — `Skc/Model/Det.lean`, `Skc/Model/Greedy.lean`. -/
namespace Skc

/-- **C08, score definition**: the score at `t` is the change score between the `b` samples before
    `t` and the `b` samples from `t` on, for `b ≤ t ≤ n - b`, and `0` elsewhere (`off = 0` is the
    code; `off = 1` was the pinned upstream code with a left window one sample short). -/
theorem mw_scores_def {α : Type} [Zero α] (cs : Nat → Nat → Nat → α) (n b t : Nat) :
    mwScores cs n b 0 t = if b ≤ t ∧ t + b ≤ n then cs (t - b) t (t + b) else 0 := by
  simp [mwScores]

/-- **C08, runs**: `where` returns exactly the maximal runs of `true`. -/
theorem where_exactly_maximal_runs (ind : List Bool) (a b : Nat) :
    (a, b) ∈ whereRuns ind ↔ IsRun ind a b :=
  whereRuns_spec ind a b

/-- **C08, peak-of-run detections (soundness)**: every reported changepoint is the position of the
    maximum score within a maximal run of at least `min_detection_interval` consecutive positions
    whose score exceeds the threshold. -/
theorem mw_changepoint_is_peak_of_run {α : Type} [LinearOrder α] (scores : Nat → α) (n : Nat)
    (thr : α) (mdi : Nat) :
    ∀ c ∈ mwCpts scores n thr mdi, ∃ a b, IsRun (aboveInd scores n thr) a b ∧ mdi ≤ b - a ∧
      a ≤ c ∧ c < b ∧ ∀ t, a ≤ t → t < b → scores t ≤ scores c :=
  fun _ hc => mem_mwCpts_isPeak hc

/-- **C08, peak-of-run detections (completeness)**: every maximal above-threshold run of at least
    `min_detection_interval` positions yields a changepoint inside it. -/
theorem mw_every_long_run_detected {α : Type} [LinearOrder α] (scores : Nat → α) (n : Nat)
    (thr : α) (mdi : Nat) (a b : Nat) (hR : IsRun (aboveInd scores n thr) a b) (hlen : mdi ≤ b - a) :
    ∃ c ∈ mwCpts scores n thr mdi, a ≤ c ∧ c < b :=
  ⟨_, (mem_mwCpts scores n thr).2 ⟨a, b, hR, hlen, rfl⟩, argmaxRange_run_mem scores hR.1⟩

/-- **C08 / C04**: the reported changepoints are strictly increasing — runs are disjoint and in
    scan order, and each changepoint lies inside its run. -/
theorem mw_changepoints_strictly_increasing {α : Type} [LinearOrder α] (scores : Nat → α) (n : Nat)
    (thr : α) (mdi : Nat) : (mwCpts scores n thr mdi).Pairwise (· < ·) := by
  refine ((List.Pairwise.and_mem.1 (whereRuns_pairwise _)).filter _).map _ fun r r' ⟨hr, hr', h⟩ => ?_
  exact Nat.lt_of_lt_of_le (argmaxRange_run_mem scores ((whereRuns_spec _ r.1 r.2).1 hr).1).2
    (Nat.le_trans h (argmaxRange_run_mem scores ((whereRuns_spec _ r'.1 r'.2).1 hr').1).1)

/-- **C08, time reversal of the scores**: if the change score of the reversed series on a cut is
    the change score of the original series on the mirrored cut, then the moving-window score at
    `t` of the reversed series is the score at `n - t` of the original one. -/
theorem mw_scores_reversal {α : Type} [Zero α] (cs cs' : Nat → Nat → Nat → α) (n b t : Nat)
    (hrev : ∀ s k e, e ≤ n → cs' s k e = cs (n - e) (n - k) (n - s)) (ht : t ≤ n) :
    mwScores cs' n b 0 t = mwScores cs n b 0 (n - t) := by
  obtain ⟨u, rfl⟩ := Nat.exists_eq_add_of_le ht
  rw [Nat.add_sub_cancel_left, mw_scores_def, mw_scores_def]
  -- with `n = t + u` both window conditions read `b ≤ t ∧ b ≤ u`
  have hc : (b ≤ t ∧ t + b ≤ t + u) ↔ (b ≤ u ∧ u + b ≤ t + u) := by omega
  refine if_ctx_congr hc (fun h => ?_) fun _ => rfl
  obtain ⟨h1, h2⟩ := hc.2 h
  rw [hrev _ _ _ h2, Nat.add_sub_add_left, Nat.add_sub_cancel_left, show t + u - (t - b) = u + b by omega]

/-- **C08, time reversal of the changepoints**: if `scores'` are the scores of the reversed series
    (`scores' t = scores (n − t)` on `1..n−1`, position 0 not above the threshold — its score is 0
    and thresholds are `≥ 0`) and the above-threshold scores are pairwise distinct (ties excluded:
    a run with equal maxima reports its *first* peak, which reversal turns into the last), then `c`
    is a changepoint of the reversed series iff `n − c` is one of the original series … -/
theorem mw_changepoints_reversal {α : Type} [LinearOrder α] (scores scores' : Nat → α) (n : Nat)
    (thr : α) (mdi : Nat) (h : Reversed scores scores' n thr) (hd : DistinctAbove scores n thr) (c : Nat) :
    c ∈ mwCpts scores' n thr mdi ↔ 1 ≤ c ∧ c < n ∧ (n - c) ∈ mwCpts scores n thr mdi := by
  constructor
  · intro hc
    obtain ⟨h1, h2, h3⟩ := h.isPeak (mem_mwCpts_isPeak hc)
    exact ⟨h1, h2, hd.mem_of_isPeak h3⟩
  · rintro ⟨h1, h2, h3⟩
    have h4 := (h.symm.isPeak (mem_mwCpts_isPeak h3)).2.2
    rw [Nat.sub_sub_self (Nat.le_of_lt h2)] at h4
    exact (h.distinctAbove hd).mem_of_isPeak h4

/-- … so the list reported for the reversed series is the mirrored list in reverse order. -/
theorem mw_changepoints_reversal_list {α : Type} [LinearOrder α] (scores scores' : Nat → α) (n : Nat)
    (thr : α) (mdi : Nat) (h : Reversed scores scores' n thr) (hd : DistinctAbove scores n thr) :
    mwCpts scores' n thr mdi = ((mwCpts scores n thr mdi).map (fun c => n - c)).reverse := by
  refine List.Pairwise.eq_of_mem_iff (r := (· < ·))
    (mw_changepoints_strictly_increasing scores' n thr mdi) ?_ fun c => ?_
  · rw [List.pairwise_reverse, List.pairwise_map]
    exact (List.Pairwise.and_mem.1 (mw_changepoints_strictly_increasing scores n thr mdi)).imp
      fun ⟨ha, _, hab⟩ => Nat.sub_lt_sub_left (lt_of_mem_mwCpts ha) hab
  · rw [List.mem_reverse, List.mem_map]
    constructor
    · intro hc
      obtain ⟨_, h2, h3⟩ := (mw_changepoints_reversal scores scores' n thr mdi h hd c).1 hc
      exact ⟨n - c, h3, Nat.sub_sub_self (Nat.le_of_lt h2)⟩
    · rintro ⟨c0, hc0, rfl⟩
      exact ((mw_changepoints_reversal scores' scores n thr mdi h.symm (h.distinctAbove hd) c0).1 hc0).2.2

/-- non-vacuity of the reversal hypotheses: scores 0,3,5,0,4,0 at positions 0..5 (n = 6), threshold 1 -/
example : Reversed (fun t => ([0, 3, 5, 0, 4, 0] : List Int).getD t 0)
    (fun t => ([0, 0, 4, 0, 5, 3] : List Int).getD t 0) 6 1 := by
  refine ⟨fun t h1 h2 => ?_, by decide, by decide⟩
  revert t
  decide
example : mwCpts (fun t => ([0, 3, 5, 0, 4, 0] : List Int).getD t 0) 6 1 1 = [2, 4] ∧
    mwCpts (fun t => ([0, 0, 4, 0, 5, 3] : List Int).getD t 0) 6 1 1 = [2, 4] := by decide

example : whereRuns [false, true, true, false, true] = [(1, 3), (4, 5)] := by decide

end Skc
