import Skc.Lemmas.Kernels

/-! # C01 — cost values equal their definition on every admissible interval

Closed forms (`Skc.CF.*`, `Skc/Spec/Kernels.lean`) evaluated on the prefix sums of arbitrary data
equal the direct definitions computed from the rows `[s, e)`.  The definitions regenerated from
`/repo` by the translator are proved equal to these closed forms in `Skc/L1/L2Cost.lean` and
`Skc/L1/Gauss.lean` (obligations of this property too), which also restate the theorems below
directly about the generated code.  All statements: every data column `x : ℕ → ℝ`, every
`s < e` — no bound on sizes.  Floating-point rounding is outside the statement (theorems over ℝ);
the multivariate Gaussian cost is computed by the code directly from the rows (no prefix-sum
identity to verify) and is tied numerically only. -/
open Finset
namespace Skc

/-- **C01, squared error, optimal mean**: residual sum of squares around the segment mean -/
theorem l2_optim_is_rss (x : ℕ → ℝ) (s e : ℕ) (h : s < e) :
    CF.l2Optim (psum x e - psum x s) (psum (fun i => x i ^ 2) e - psum (fun i => x i ^ 2) s)
      ((e : ℝ) - s) = rss x (segMean x s e) s e := by
  rw [psum_sub x s e h.le, psum_sub _ s e h.le, rss_segMean_eq_l2Optim x s e h]

/-- **C01, squared error, fixed mean** -/
theorem l2_fixed_is_rss (x : ℕ → ℝ) (μ : ℝ) (s e : ℕ) (h : s ≤ e) :
    CF.l2Fixed (psum x e - psum x s) (psum (fun i => x i ^ 2) e - psum (fun i => x i ^ 2) s)
      ((e : ℝ) - s) μ = rss x μ s e := by
  rw [psum_sub x s e h, psum_sub _ s e h, rss_eq_l2Fixed x μ s e h]

/-- **C01, univariate Gaussian, optimal parameters**: `n log(2π σ̂²) + n` with the population
    variance `σ̂²` of the rows floored at 1e-16 -/
theorem gauss_optim_is_loglik (x : ℕ → ℝ) (s e : ℕ) (h : s < e) :
    CF.gaussOptim (psum x e - psum x s) (psum (fun i => x i ^ 2) e - psum (fun i => x i ^ 2) s)
      ((e : ℝ) - s) =
      ((e : ℝ) - s) * Real.log (2 * Real.pi *
        max (rss x (segMean x s e) s e / ((e : ℝ) - s)) varFloorConst) + ((e : ℝ) - s) := by
  rw [CF.gaussOptim, varFloor_eq_max_empVar, ← l2_optim_is_rss x s e h, l2Optim_eq_mul_empVar _ _ _ (len_pos h).ne',
    mul_div_cancel_left₀ _ (len_pos h).ne']

/-- **C01, univariate Gaussian, fixed parameters**: `n log(2π v) + Σ (x_i − μ)² / v` -/
theorem gauss_fixed_is_loglik (x : ℕ → ℝ) (μ v : ℝ) (s e : ℕ) (h : s ≤ e) :
    CF.gaussFixed (psum x e - psum x s) (psum (fun i => x i ^ 2) e - psum (fun i => x i ^ 2) s)
      ((e : ℝ) - s) μ v = ((e : ℝ) - s) * Real.log (2 * Real.pi * v) + rss x μ s e / v := by
  rw [CF.gaussFixed, l2_fixed_is_rss x μ s e h]

/-- the floor constant is the documented 1e-16 -/
theorem varFloor_is_1e16 : varFloorConst = 1 / 10 ^ 16 := by
  unfold varFloorConst; norm_num

/-- **C01, batch and order independence**: `evaluate` maps a per-interval function over the rows
    of `cuts`; the row returned for an interval depends on that interval only. -/
theorem evaluate_row_independent {γ : Type} (f : Nat × Nat → γ) (cuts : List (Nat × Nat))
    (i : Nat) (c : Nat × Nat) (h : cuts[i]? = some c) : (cuts.map f)[i]? = some (f c) := by
  simp [h]

/-- non-vacuity: the data 1,2,4,7,3 on [1,4) has RSS 38/3 -/
example : CF.l2Optim 13 69 3 = 38 / 3 := by simp only [CF.l2Optim]; norm_num

end Skc
