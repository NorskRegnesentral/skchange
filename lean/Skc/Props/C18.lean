import Skc.Model.Datagen
import Mathlib.Algebra.Ring.Defs
import Mathlib.Tactic.Linarith
import Mathlib.Tactic.Ring
import Mathlib.Data.List.Basic

/-! # C18 — data generators place segments exactly where requested

Model: `applySegs` / `changingSegs` / `validChanging` / `validAnomalous` / `linspaceRows`
(`Skc/Model/Datagen.lean`).  Reproducibility for identical arguments and seed is a property of
SciPy's seeded draw (checked by running twice), outside the model: `z` is an arbitrary function. -/
namespace Skc
variable {α : Type} [CommRing α]

/-- segments pairwise disjoint (as row ranges) -/
def DisjointSegs (l : List (Seg α)) : Prop :=
  l.Pairwise (fun a b => a.e ≤ b.s ∨ b.e ≤ a.s)

/-- the value in row `i` depends on the draw in row `i` only -/
theorem applySegs_congr (z z' : Nat → α) (segs : List (Seg α)) (i : Nat) (h : z i = z' i) :
    applySegs z segs i = applySegs z' segs i := by
  induction segs generalizing z z' with
  | nil => exact h
  | cons g rest ih => exact ih _ _ (by simp only [h])

/-- a segment that does not hold row `i` leaves it alone -/
theorem applySegs_cons_skip (z : Nat → α) (g : Seg α) (rest : List (Seg α)) (i : Nat)
    (h : ¬ (g.s ≤ i ∧ i < g.e)) : applySegs z (g :: rest) i = applySegs z rest i :=
  applySegs_congr _ _ rest i (if_neg h)

/-- a row outside every segment keeps its standard-normal value -/
theorem applySegs_outside (z : Nat → α) (segs : List (Seg α)) (i : Nat)
    (h : ∀ g ∈ segs, ¬ (g.s ≤ i ∧ i < g.e)) : applySegs z segs i = z i := by
  induction segs with
  | nil => rfl
  | cons g rest ih =>
    rw [applySegs_cons_skip z g rest i (h g List.mem_cons_self)]
    exact ih fun g' hg' => h g' (List.mem_cons_of_mem g hg')

/-- **C18**: with pairwise disjoint segments (sorted changepoints, or disjoint anomalies), a row
    inside segment `g` equals `mean + sd × (the standard-normal output)`, and a row outside every
    segment equals the standard-normal output. -/
theorem applySegs_placement (z : Nat → α) : ∀ (segs : List (Seg α)), DisjointSegs segs →
    ∀ (i : Nat), (∀ g ∈ segs, g.s ≤ i → i < g.e → applySegs z segs i = g.m + g.sd * z i) ∧
      ((∀ g ∈ segs, ¬ (g.s ≤ i ∧ i < g.e)) → applySegs z segs i = z i) := by
  intro segs hd i
  refine ⟨?_, applySegs_outside z segs i⟩
  induction segs with
  | nil => exact fun g hg => absurd hg List.not_mem_nil
  | cons g rest ih =>
    obtain ⟨hg, hrest⟩ := List.pairwise_cons.1 hd
    intro g' hg' h1 h2
    rcases List.mem_cons.1 hg' with rfl | hmem
    · -- row `i` is in the head segment: no later segment touches it
      rw [applySegs, applySegs_outside _ rest i, if_pos ⟨h1, h2⟩]
      intro g'' hg''
      have := hg g'' hg''
      omega
    · -- row `i` is in a later segment: the head leaves it alone
      rw [applySegs_cons_skip z g rest i (by have := hg g' hmem; omega)]
      exact ih hrest g' hmem h1 h2

/-- the segments built from non-decreasing changepoints `≥ s` are pairwise disjoint as row ranges
    (a repeated changepoint gives an empty segment) and start at or after `s` -/
theorem changingSegs_disjoint (n : Nat) : ∀ (s : Nat) (cps : List Nat) (ps : List (α × α)),
    cps.Pairwise (· ≤ ·) → (∀ c ∈ cps, s ≤ c) →
    DisjointSegs (changingSegs n s cps ps) ∧ ∀ g ∈ changingSegs n s cps ps, s ≤ g.s := by
  intro s cps ps hs hge
  fun_induction changingSegs n s cps ps with
  | case1 s m sd _ =>
    refine ⟨List.pairwise_singleton _ _, fun g hg => ?_⟩
    rw [List.mem_singleton.1 hg]
  | case2 s c cs m sd ps ih =>
    obtain ⟨hcs, hs'⟩ := List.pairwise_cons.1 hs
    obtain ⟨ih1, ih2⟩ := ih hs' hcs
    refine ⟨List.pairwise_cons.2 ⟨fun g hg => Or.inl (ih2 g hg), ih1⟩, fun g hg => ?_⟩
    rcases List.mem_cons.1 hg with rfl | hg
    · exact le_refl s
    · exact le_trans (hge c List.mem_cons_self) (ih2 g hg)
  | case3 => exact ⟨List.Pairwise.nil, fun g hg => absurd hg List.not_mem_nil⟩

/-- adding at least the divisor to the numerator adds at least 1 to the quotient -/
theorem div_lt_add_div (a k m : Nat) (hk : 0 < k) (hkm : k ≤ m) : a / k < (a + m) / k :=
  calc a / k < a / k + 1 := Nat.lt_succ_self _
    _ = (a + k) / k := (Nat.add_div_right a hk).symm
    _ ≤ (a + m) / k := Nat.div_le_div_right (Nat.add_le_add_left hkm a)

/-- **C18, outliers (ideal spacing)**: for `2 ≤ k ≤ n` the rows `⌊i (n-1)/(k-1)⌋` are strictly
    increasing (hence `k` distinct rows), start at the first row and end at the last. -/
theorem linspaceRows_spec (n k : Nat) (hk : 2 ≤ k) (hkn : k ≤ n) :
    (linspaceRows n k).length = k ∧ (linspaceRows n k)[0]? = some 0 ∧
    (linspaceRows n k)[k - 1]? = some (n - 1) ∧
    ∀ i, i + 1 < k → i * (n - 1) / (k - 1) < (i + 1) * (n - 1) / (k - 1) := by
  have hk1 : ¬ k ≤ 1 := Nat.not_le_of_lt hk
  have hk0 : 0 < k := Nat.lt_of_lt_of_le Nat.two_pos hk
  have hpos : 0 < k - 1 := Nat.sub_pos_of_lt hk
  have hget : ∀ i, i < k → (linspaceRows n k)[i]? = some (i * (n - 1) / (k - 1)) := fun i hi => by
    simp only [linspaceRows, List.getElem?_map, List.getElem?_range hi, Option.map_some, hk1, if_false]
  refine ⟨?_, ?_, ?_, fun i _ => ?_⟩
  · rw [linspaceRows, List.length_map, List.length_range]
  · rw [hget 0 hk0, Nat.zero_mul, Nat.zero_div]
  · rw [hget _ (Nat.sub_lt hk0 Nat.one_pos), Nat.mul_div_cancel_left _ hpos]
  · rw [Nat.succ_mul]
    exact div_lt_add_div _ _ _ hpos (Nat.sub_le_sub_right hkn 1)

/-- **C18, validation**: `generate_changing_data` accepts its arguments iff the numbers of means
    and variances equal the number of segments and every changepoint lies in `[0, n-1]` -/
theorem validChanging_iff (n : Nat) (cps : List Int) (a b : Nat) :
    validChanging n cps a b = true ↔
      a = cps.length + 1 ∧ b = cps.length + 1 ∧ ∀ c ∈ cps, 0 ≤ c ∧ c ≤ (n : Int) - 1 := by
  simp only [validChanging, Bool.and_eq_true, decide_eq_true_eq, List.all_eq_true, and_assoc]

theorem validAnomalous_iff (n : Nat) (anoms : List (Int × Int)) (a b : Nat) :
    validAnomalous n anoms a b = true ↔
      a = anoms.length ∧ b = anoms.length ∧
        ∀ x ∈ anoms, x.1 < x.2 ∧ 0 ≤ x.1 ∧ x.2 ≤ (n : Int) := by
  simp only [validAnomalous, Bool.and_eq_true, decide_eq_true_eq, List.all_eq_true, and_assoc]

example : applySegs (fun i => (i : Int)) [⟨2, 4, 10, 2⟩, ⟨4, 5, -1, 3⟩] 3 = 16 := by decide
example : linspaceRows 10 4 = [0, 3, 6, 9] := by decide

end Skc
