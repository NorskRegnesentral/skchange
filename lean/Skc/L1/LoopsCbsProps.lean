import Skc.L1.LoopsCbs
import Skc.Props.C09

/-! The C09 candidate-enumeration theorem restated about the definition regenerated from the current source (route T2). -/
namespace Skc
open GenL

/-- **C09 on the regenerated code**: the arrays of starts and ends that `make_anomaly_intervals`, as read off the current
    source, returns pair up to exactly the admissible inner intervals of the candidate `[s, e)` -/
theorem gen_anomaly_intervals_exactly_admissible (s e m : Nat) (hm : m ≤ e) :
    ∃ starts ends, anomaly_intervals s e m = some (starts, ends) ∧ starts.length = ends.length ∧
      ∀ i j, (i, j) ∈ starts.zip ends ↔ s < i ∧ i + m ≤ j ∧ j < e ∧ m ≤ (e - j) + (i - s) := by
  refine ⟨_, _, gen_anomaly_intervals_eq_model s e m hm, by simp, ?_⟩
  intro i j
  rw [← List.zip_of_prod rfl rfl]
  exact cbs_inner_intervals s e m i j

end Skc
