import Skc.Gen.Loops
import Skc.Model.Det
import Skc.Lemmas.Cbs
import Mathlib.Data.List.Basic

/-! L1 layer for route T2, circular binary segmentation: the candidate enumeration regenerated from
    `skchange/anomaly_detectors/circular_binseg.py::make_anomaly_intervals` equals the model's `anomalyIntervals`. -/
namespace Skc
open GenL

theorem anomaly_intervals_body1_eq (s e m i j : Nat) (st en : List Nat) (hj : j ≤ e) (hi : s ≤ e - j + i) :
    anomaly_intervals_body1 s e m i j st en =
      some (if m ≤ e - j + i - s then (st ++ [i], en ++ [j]) else (st, en)) := by
  have h1 : pySub e j = some (e - j) := if_pos hj
  have h2 : pySub (e - j + i) s = some (e - j + i - s) := if_pos hi
  simp only [anomaly_intervals_body1, h1, h2, bind, Option.bind_some, decide_eq_true_eq]
  exact (apply_ite some _ _ _).symm

/-- the inner candidates of one start `i`, as the model lists them -/
def innerOf (s e m i : Nat) (js : List Nat) : List (Nat × Nat) :=
  (js.filter (fun j => decide (m ≤ e - j + i - s))).map (fun j => (i, j))

theorem anomaly_intervals_loop1_eq (s e m i : Nat) (hi : s ≤ i) (js : List Nat) (st en : List Nat)
    (h : ∀ j ∈ js, j ≤ e) :
    anomaly_intervals_loop1 s e m i js (st, en) =
      some (st ++ (innerOf s e m i js).map Prod.fst, en ++ (innerOf s e m i js).map Prod.snd) := by
  induction js generalizing st en with
  | nil => simp [anomaly_intervals_loop1, innerOf]
  | cons j rest ih =>
    have hj : j ≤ e := h j List.mem_cons_self
    have hrest : ∀ j' ∈ rest, j' ≤ e := fun j' hj' => h j' (List.mem_cons_of_mem _ hj')
    rw [anomaly_intervals_loop1, anomaly_intervals_body1_eq s e m i j st en hj (Nat.le_add_left_of_le hi), Option.bind_some]
    by_cases hc : m ≤ e - j + i - s
    · rw [if_pos hc, ih _ _ hrest]
      simp [innerOf, hc]
    · rw [if_neg hc, ih _ _ hrest]
      simp [innerOf, hc]

theorem anomaly_intervals_body0_eq (s e m i : Nat) (st en : List Nat) (hi : s ≤ i) :
    anomaly_intervals_body0 s e m i st en =
      some (st ++ (innerOf s e m i (List.range' (i + m) (e - (i + m)))).map Prod.fst,
        en ++ (innerOf s e m i (List.range' (i + m) (e - (i + m)))).map Prod.snd) := by
  simp only [anomaly_intervals_body0, bind, pure, Option.bind_some,
    anomaly_intervals_loop1_eq s e m i hi _ st en fun j hj => Nat.le_of_lt (mem_range'_sub.1 hj).2]

theorem anomaly_intervals_loop0_eq (s e m : Nat) (is : List Nat) (st en : List Nat) (h : ∀ i ∈ is, s ≤ i) :
    anomaly_intervals_loop0 s e m is (st, en) =
      some (st ++ (is.flatMap fun i => innerOf s e m i (List.range' (i + m) (e - (i + m)))).map Prod.fst,
        en ++ (is.flatMap fun i => innerOf s e m i (List.range' (i + m) (e - (i + m)))).map Prod.snd) := by
  induction is generalizing st en with
  | nil => simp [anomaly_intervals_loop0]
  | cons i rest ih =>
    rw [anomaly_intervals_loop0, anomaly_intervals_body0_eq s e m i st en (h i List.mem_cons_self),
      Option.bind_some, ih _ _ fun i' hi' => h i' (List.mem_cons_of_mem _ hi')]
    simp [List.flatMap_cons, List.append_assoc]

/-- **route T2, `make_anomaly_intervals`**: for `min_segment_length ≤ interval_end` (the detector only calls it on
    intervals of at least `2 · min_segment_length` rows) the function regenerated from the source never fails and
    returns exactly the model's candidate list, as its arrays of starts and of ends -/
theorem gen_anomaly_intervals_eq_model (s e m : Nat) (hm : m ≤ e) :
    anomaly_intervals s e m =
      some ((anomalyIntervals s e m).map Prod.fst, (anomalyIntervals s e m).map Prod.snd) := by
  have h1 : pySub e m = some (e - m) := if_pos hm
  have hl := anomaly_intervals_loop0_eq s e m (List.range' (s + 1) (e - m + 2 - (s + 1))) [] []
    fun i hi => Nat.le_of_succ_le (mem_range'_sub.1 hi).1
  simp only [anomaly_intervals, h1, bind, Option.bind_some, hl]
  rfl

/-- kernel evaluation of the generated definition on a concrete candidate (`m ≤ e` holds: `1 ≤ 5`) -/
example : anomaly_intervals 0 5 1 = some ([1, 1, 1, 2, 2, 3], [2, 3, 4, 3, 4, 4]) := by decide

end Skc
