import Skc.Gen.KernelsReal
import Skc.Lemmas.Kernels
import Skc.L1.Tactic
import Skc.L1.L2Cost

/-! L1 (route T) for `skchange/change_scores/cusum.py`. -/
namespace Skc

theorem gen_cusum_score (s e k : ℕ) (S : ℕ → ℝ) :
    Gen.cusum_score s e k S =
      CF.cusum (S k - S s) (S e - S k) ((k : ℝ) - s) ((e : ℝ) - k) ((e : ℝ) - s) := by
  simp only [Gen.cusum_score, CF.cusum] <;> kernel_eq

/-- **C06 on the generated code**: the squared CUSUM score equals the squared-error change score
    `C(s,e) − C(s,k) − C(k,e)`, for any prefix-sum tables and all `s < k < e`. -/
theorem gen_cusum_sq_eq_l2_change (S S2 : ℕ → ℝ) (s k e : ℕ) (h1 : s < k) (h2 : k < e) :
    (Gen.cusum_score s e k S) ^ 2 =
      Gen.l2_cost_optim s e S S2 - (Gen.l2_cost_optim s k S S2 + Gen.l2_cost_optim k e S S2) := by
  rw [gen_cusum_score, gen_l2_cost_optim, gen_l2_cost_optim, gen_l2_cost_optim]
  exact cusum_sq_eq_l2_change (len_pos h2) (len_pos h1) (sub_add_sub_cancel _ _ _) (sub_add_sub_cancel _ _ _)
    (sub_add_sub_cancel _ _ _)

end Skc
