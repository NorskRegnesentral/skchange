import Skc.Gen.KernelsReal
import Skc.Props.C01
import Skc.L1.Tactic

/-! L1 (route T): the definitions regenerated from `skchange/costs/l2_cost.py` and
    `skchange/anomaly_scores/l2_saving.py` equal the hand-written closed forms; corollaries state
    C01 / C06 directly about the generated code. -/
namespace Skc

theorem gen_l2_cost_optim (s e : ℕ) (S S2 : ℕ → ℝ) :
    Gen.l2_cost_optim s e S S2 = CF.l2Optim (S e - S s) (S2 e - S2 s) ((e : ℝ) - s) := by
  simp only [Gen.l2_cost_optim, CF.l2Optim] <;> kernel_eq

theorem gen_l2_cost_fixed (s e : ℕ) (S S2 : ℕ → ℝ) (μ : ℝ) :
    Gen.l2_cost_fixed s e S S2 μ = CF.l2Fixed (S e - S s) (S2 e - S2 s) ((e : ℝ) - s) μ := by
  simp only [Gen.l2_cost_fixed, CF.l2Fixed] <;> kernel_eq

theorem gen_l2_saving (s e : ℕ) (S : ℕ → ℝ) :
    Gen.l2_saving s e S = CF.l2Saving (S e - S s) ((e : ℝ) - s) := by
  simp only [Gen.l2_saving, CF.l2Saving] <;> kernel_eq

/-- **C01 on the generated code (L2, optimal mean)**: evaluated on the prefix sums of any data,
    the kernel returns the residual sum of squares of the rows `[s,e)` around their mean. -/
theorem gen_l2_cost_optim_direct (x : ℕ → ℝ) (s e : ℕ) (h : s < e) :
    Gen.l2_cost_optim s e (psum x) (psum fun i => x i ^ 2) = rss x (segMean x s e) s e := by
  rw [gen_l2_cost_optim]; exact l2_optim_is_rss x s e h

/-- **C01 on the generated code (L2, fixed mean)** -/
theorem gen_l2_cost_fixed_direct (x : ℕ → ℝ) (μ : ℝ) (s e : ℕ) (h : s ≤ e) :
    Gen.l2_cost_fixed s e (psum x) (psum fun i => x i ^ 2) μ = rss x μ s e := by
  rw [gen_l2_cost_fixed]; exact l2_fixed_is_rss x μ s e h

/-- **C06 on the generated code**: `l2_saving` = L2 cost at baseline mean 0 − optimal L2 cost -/
theorem gen_l2_saving_eq (s e : ℕ) (S S2 : ℕ → ℝ) :
    Gen.l2_saving s e S = Gen.l2_cost_fixed s e S S2 0 - Gen.l2_cost_optim s e S S2 := by
  rw [gen_l2_saving, gen_l2_cost_fixed, gen_l2_cost_optim]; exact l2Saving_eq _ _ _

end Skc
