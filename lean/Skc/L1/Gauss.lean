import Skc.Gen.KernelsReal
import Skc.Props.C01
import Skc.L1.Tactic

/-! L1 (route T) for `skchange/costs/gaussian_var_cost.py`. -/
namespace Skc

theorem gen_var_from_sums (s e : ℕ) (S S2 : ℕ → ℝ) :
    Gen.var_from_sums s e S S2 = CF.varFloor (S e - S s) (S2 e - S2 s) ((e : ℝ) - s) := by
  simp only [Gen.var_from_sums, CF.varFloor, varFloorConst] <;> kernel_eq

theorem gen_gaussian_var_cost_optim (s e : ℕ) (S S2 : ℕ → ℝ) :
    Gen.gaussian_var_cost_optim s e S S2 =
      CF.gaussOptim (S e - S s) (S2 e - S2 s) ((e : ℝ) - s) := by
  simp only [Gen.gaussian_var_cost_optim, CF.gaussOptim, gen_var_from_sums] <;> kernel_eq

theorem gen_gaussian_var_cost_fixed (s e : ℕ) (S S2 : ℕ → ℝ) (μ v : ℝ) :
    Gen.gaussian_var_cost_fixed s e S S2 μ v =
      CF.gaussFixed (S e - S s) (S2 e - S2 s) ((e : ℝ) - s) μ v := by
  simp only [Gen.gaussian_var_cost_fixed, CF.gaussFixed, CF.l2Fixed] <;> kernel_eq

/-- **C01 on the generated code (univariate Gaussian, optimal parameters)**: twice the negative
    log-likelihood at the maximum-likelihood mean and the population variance floored at 1e-16. -/
theorem gen_gaussian_var_cost_optim_direct (x : ℕ → ℝ) (s e : ℕ) (h : s < e) :
    Gen.gaussian_var_cost_optim s e (psum x) (psum fun i => x i ^ 2) =
      ((e : ℝ) - s) * Real.log (2 * Real.pi *
        max (rss x (segMean x s e) s e / ((e : ℝ) - s)) varFloorConst) + ((e : ℝ) - s) := by
  rw [gen_gaussian_var_cost_optim]
  exact gauss_optim_is_loglik x s e h

/-- **C01 on the generated code (univariate Gaussian, fixed parameters)** -/
theorem gen_gaussian_var_cost_fixed_direct (x : ℕ → ℝ) (μ v : ℝ) (s e : ℕ) (h : s ≤ e) :
    Gen.gaussian_var_cost_fixed s e (psum x) (psum fun i => x i ^ 2) μ v =
      ((e : ℝ) - s) * Real.log (2 * Real.pi * v) + rss x μ s e / v := by
  rw [gen_gaussian_var_cost_fixed]
  exact gauss_fixed_is_loglik x μ v s e h

end Skc
