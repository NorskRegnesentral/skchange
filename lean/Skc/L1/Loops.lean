import Skc.Gen.Loops
import Skc.Model.Greedy
import Skc.Lemmas.Where
import Skc.Lemmas.Select

/-! L1 layer for route T2: the definitions that `harness/translate_loops.py` regenerates from /repo's
    imperative kernels on every run (`Skc/Gen/Loops.lean`) are proved equal to the hand-written models
    that the property theorems are about. -/
namespace Skc
open GenL

/-- one iteration of the scan in `where` is one step of the model's scan (`whereRunsAux_cons`); `end_` is written
    and never read -/
theorem where_body0_eq (ind : List Bool) (i : Nat) (val : Bool) (intervals : List (Nat × Nat)) (start e : Option Nat) :
    ∃ e', where_body0 ind i val intervals start e =
      some (intervals ++ whereEmit (some val) i start, whereNext val i start, e') := by
  cases val <;> cases start <;> simp [where_body0, whereEmit, whereNext]

/-- what the loop of `where` has found when the input ends at position `n`: the closed runs, and the run
    still open, closed at `n` -/
def whereFinal (n : Nat) (st : List (Nat × Nat) × Option Nat × Option Nat) : List (Nat × Nat) :=
  st.1 ++ whereRunsAux [] n st.2.1

/-- the loop of `where` from position `i` with the closed runs `acc` and the open run `start` never fails,
    and what it has found at the end is what the model's scan yields -/
theorem where_loop0_spec (ind l : List Bool) (i : Nat) (acc : List (Nat × Nat)) (start e : Option Nat) :
    (where_loop0 ind l i (acc, start, e)).map (whereFinal (i + l.length)) = some (acc ++ whereRunsAux l i start) := by
  induction l generalizing i acc start e with
  | nil => rfl
  | cons val rest ih =>
    obtain ⟨e', h⟩ := where_body0_eq ind i val acc start e
    rw [where_loop0, h, Option.bind_some, List.length_cons, ← Nat.add_assoc, Nat.add_right_comm, ih,
      whereRunsAux_cons, List.append_assoc]

/-- **route T2, `where`**: the function regenerated from `skchange/utils/numba/general.py::where` never
    fails and returns exactly the model's maximal runs, for every boolean input of every length -/
theorem gen_where_eq_model (indicator : List Bool) : where_ indicator = some (whereRuns indicator) := by
  have := where_loop0_spec indicator indicator 0 [] none none
  simp only [Nat.zero_add, List.nil_append] at this
  rw [whereRuns, ← this, where_]
  cases where_loop0 indicator indicator 0 ([], none, none) with
  | none => rfl
  | some st =>
    obtain ⟨a, s, e⟩ := st
    cases s <;> simp [whereFinal, whereRunsAux]

/-- **C08 on the regenerated code**: what `where`, as read off the current source, returns for a boolean array is
    exactly the set of its maximal runs of true values (half-open, in scan order, pairwise separated) -/
theorem gen_where_exactly_maximal_runs (ind : List Bool) :
    ∃ runs, where_ ind = some runs ∧ (∀ a b, (a, b) ∈ runs ↔ IsRun ind a b) ∧
      runs.Pairwise (fun r r' => r.2 ≤ r'.1) :=
  ⟨whereRuns ind, gen_where_eq_model ind, whereRuns_spec ind, whereRuns_pairwise ind⟩

section mw
variable {α : Type} [LT α] [DecidableLT α]

theorem pyArgmaxFrom_eq (a : Nat → α) : ∀ (len i b : Nat), pyArgmaxFrom a i len b = argmaxRange a i len b
  | 0, _, _ => rfl
  | len + 1, i, b => by
    simp only [pyArgmaxFrom, argmaxRange, pyArgmaxFrom_eq a len]

/-- one iteration of the loop over the detection intervals, for a non-empty interval inside the array -/
theorem mw_changepoints_body0_eq (scores : Nat → α) (n : Nat) (thr : α) (mdi : Nat) (r : Nat × Nat)
    (dets : List (Nat × Nat)) (cps : List Nat) (h1 : r.1 < r.2) (h2 : r.2 ≤ n) :
    mw_changepoints_body0 scores n thr mdi r dets cps =
      some (dets, if mdi ≤ r.2 - r.1 then cps ++ [argmaxRange scores (r.1 + 1) (r.2 - r.1 - 1) r.1] else cps) := by
  have hsub : pySub r.2 r.1 = some (r.2 - r.1) := if_pos (Nat.le_of_lt h1)
  have hge := (argmaxRange_mem scores r.1 (r.2 - r.1 - 1)).1
  have harg : pyArgmaxSlice scores n r.1 r.2 = some (argmaxRange scores (r.1 + 1) (r.2 - r.1 - 1) r.1 - r.1) := by
    rw [pyArgmaxSlice, Nat.min_eq_left h2, if_pos h1, pyArgmaxFrom_eq]
  simp only [mw_changepoints_body0, hsub, harg, Nat.sub_add_cancel hge, bind, Option.bind_some, decide_eq_true_eq]
  split <;> rfl

theorem mw_changepoints_loop0_eq (scores : Nat → α) (n : Nat) (thr : α) (mdi : Nat)
    (runs : List (Nat × Nat)) (dets : List (Nat × Nat)) (cps : List Nat) (h : ∀ r ∈ runs, r.1 < r.2 ∧ r.2 ≤ n) :
    mw_changepoints_loop0 scores n thr mdi runs (dets, cps) =
      some (dets, cps ++ ((runs.filter (fun r => decide (mdi ≤ r.2 - r.1))).map
        (fun r => argmaxRange scores (r.1 + 1) (r.2 - r.1 - 1) r.1))) := by
  induction runs generalizing cps with
  | nil => simp [mw_changepoints_loop0]
  | cons r rest ih =>
    obtain ⟨h1, h2⟩ := h r List.mem_cons_self
    have hrest : ∀ r' ∈ rest, r'.1 < r'.2 ∧ r'.2 ≤ n := fun r' hr' => h r' (List.mem_cons_of_mem _ hr')
    simp only [mw_changepoints_loop0, mw_changepoints_body0_eq scores n thr mdi r dets cps h1 h2, Option.bind_some]
    rw [ih _ hrest, List.filter_cons]
    simp only [decide_eq_true_eq]
    split
    · rw [List.map_cons, List.append_assoc]; rfl
    · rfl

/-- **route T2, `get_moving_window_changepoints`**: the function regenerated from
    `skchange/change_detectors/moving_window.py` (with `where` regenerated from its own source) never fails
    and returns exactly the model's changepoints `mwCpts`, for every score curve, threshold and minimum
    detection interval -/
theorem gen_mw_changepoints_eq_model (scores : Nat → α) (n : Nat) (thr : α) (mdi : Nat) :
    mw_changepoints scores n thr mdi = some (mwCpts scores n thr mdi) := by
  have hruns : ∀ r ∈ whereRuns ((List.range n).map (fun t => decide (thr < scores t))), r.1 < r.2 ∧ r.2 ≤ n := by
    intro r hr
    obtain ⟨h1, h2, _⟩ := (whereRuns_spec _ r.1 r.2).1 hr
    simp only [List.length_map, List.length_range] at h2
    exact ⟨h1, h2⟩
  simp only [mw_changepoints, gen_where_eq_model, mwCpts]
  simp [mw_changepoints_loop0_eq scores n thr mdi _ _ [] hruns]

end mw

/-! ### Sanity: kernel evaluation of the generated definitions on concrete inputs -/

example : where_ [false, true, true, false, true] = some [(1, 3), (4, 5)] := by decide

example : mw_changepoints (fun i => [0, 3, 5, 3, 0, 0, 7, 7, 1].getD i (0 : Nat)) 9 2 1 = some [2, 6] := by decide

end Skc
