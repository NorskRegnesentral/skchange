import Mathlib.Tactic.Ring
import Mathlib.Tactic.FieldSimp
import Mathlib.Algebra.Order.Group.Abs

/-! `kernel_eq`: closes "generated definition = closed form" goals after unfolding; tries
    definitional equality first, then ring normalisation with and without clearing denominators,
    argument-wise normalisation under one to three function applications (`log`, `sqrt`, `max`, …)
    and `|x| = |−x|`, so that algebraically neutral rewrites of the Python source keep the L1 layer
    green.  (`ring1` rather than `ring`: the latter falls back to `ring_nf` without failing.)

    It is always called as `simp only [Gen.f, CF.f] <;> kernel_eq`: `kernel_eq` runs on whatever goal the
    unfolding leaves.  Where the two sides already agree syntactically `simp only` closes the goal itself and
    `kernel_eq` is not run (the linter then reports it as never executed); with `;` in place of `<;>` those
    proofs would fail for want of a goal, and without `kernel_eq` they would break at the first neutral
    rewrite of the source. -/
macro "kernel_eq" : tactic =>
  `(tactic| first
    | rfl
    | ring1
    | (field_simp; ring1)
    | (congr 1 <;> first | rfl | ring1 | (field_simp; ring1))
    | (rw [← abs_neg]; congr 1 <;> first | rfl | ring1 | (field_simp; ring1))
    | (congr 2 <;> first | rfl | ring1 | (field_simp; ring1))
    | (congr 3 <;> first | rfl | ring1 | (field_simp; ring1)))
