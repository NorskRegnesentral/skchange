import Skc.Gen.Loops
import Skc.Model.Pelt
import Skc.Lemmas.PeltSpec
import Skc.Props.C02
import Mathlib.Data.List.Basic
import Mathlib.Tactic.Ring

/-! L1 layer for route T2, PELT: the back-tracking function regenerated from
    `skchange/change_detectors/pelt.py::get_changepoints` equals the model's `backtrack`. -/
namespace Skc
open GenL

theorem pelt_changepoints_body0_eq (prev : Nat → Nat) (n : Nat) (cps : List Nat) (j : Nat) (hj : j < n) :
    pelt_changepoints_body0 prev n cps (j : Int) = some (cps ++ [prev j], ((prev j : Nat) : Int) - 1) := by
  rw [pelt_changepoints_body0, pyIndex, if_pos ⟨Int.natCast_nonneg j, Int.ofNat_lt.2 hj⟩]
  rfl

/-- the `while` loop from position `i = i1 - 1` with the visited list `cps`: with enough fuel it ends at `i = -1`
    and what it has visited, reversed, is what the model's `backtrack` accumulates -/
theorem pelt_changepoints_loop0_spec (prev : Nat → Nat) (n : Nat) (h : ∀ i, i < n → prev i ≤ i) :
    ∀ (i1 fuel fuelM : Nat) (cps : List Nat), i1 ≤ n → i1 + 1 ≤ fuel → i1 ≤ fuelM →
      ∃ cps', pelt_changepoints_loop0 prev n fuel (cps, (i1 : Int) - 1) = some (cps', -1) ∧
        cps'.reverse = backtrack prev fuelM i1 cps.reverse := by
  intro i1
  induction i1 using Nat.strong_induction_on with
  | _ i1 ih =>
    intro fuel fuelM cps hn hf hfm
    obtain ⟨f, rfl⟩ := Nat.exists_eq_add_one_of_ne_zero (Nat.ne_zero_of_lt hf)
    cases i1 with
    | zero => exact ⟨cps, rfl, (backtrack_zero prev fuelM _).symm⟩
    | succ j =>
      obtain ⟨fm, rfl⟩ := Nat.exists_eq_add_one_of_ne_zero (Nat.ne_zero_of_lt hfm)
      have hpj := h j hn
      obtain ⟨cps', h1, h2⟩ :=
        ih (prev j) (Nat.lt_succ_of_le hpj) f fm (cps ++ [prev j]) (by omega) (by omega) (by omega)
      refine ⟨cps', ?_, ?_⟩
      · rw [Nat.cast_succ, add_sub_cancel_right, pelt_changepoints_loop0,
          if_pos (decide_eq_true (Int.ofNat_le.2 (Nat.zero_le j))),
          pelt_changepoints_body0_eq prev n cps j hn, Option.bind_some]
        exact h1
      · rw [h2, backtrack, List.reverse_append]; rfl

/-- **route T2, `get_changepoints`**: for back-pointers that point backwards (`prev i ≤ i`, which PELT's recursion
    guarantees) the function regenerated from the source never fails, stays within its iteration bound, and
    returns exactly the model's back-tracked changepoints (the artificial changepoint 0 removed) -/
theorem gen_pelt_changepoints_eq_model (prev : Nat → Nat) (n : Nat) (h : ∀ i, i < n → prev i ≤ i) :
    pelt_changepoints prev n = some ((backtrack prev (n + 1) n []).drop 1) := by
  obtain ⟨cps', h1, h2⟩ :=
    pelt_changepoints_loop0_spec prev n h n (n + 1) (n + 1) [] (Nat.le_refl _) (Nat.le_refl _) (Nat.le_succ n)
  simp only [pelt_changepoints, Nat.cast_one, h1]
  rw [← List.reverse_nil, ← h2, List.drop_one, List.tail_reverse]
  rfl

section composed
variable {α : Type} [AddCommGroup α] [LinearOrder α] [IsOrderedAddMonoid α]

/-- **PELT's reported changepoints are what the regenerated back-tracking returns on the model's back-pointers.**
    For every sound selector / pruning test, every cost satisfying the split inequality and every
    `delay ≥ m - 1`, the back-pointers left by the recursion point backwards (a consequence of the Bellman
    invariant `Inv.bell_eq` / `Inv.prev_lo`), so `get_changepoints` as regenerated from the source stays
    within its iteration bound, never indexes outside the array, and returns the segmentation that
    `pelt_optimal` is about. -/
theorem pelt_backtracking_is_generated (pick : (Nat → α) → List Nat → Nat) (pr : α → α → Bool)
    (hpick : SoundPick pick) (hpr : SoundPrune pr)
    (cost : Nat → Nat → α) (pen : α) (m delay n : Nat)
    (hm : 1 ≤ m) (hd : m ≤ delay + 1) (hn : 2 * m ≤ n) (hsplit : SplitIneq cost m n) :
    pelt_changepoints (peltIter pick pr cost pen m delay (n + 1 - 2 * m)).prev n
      = some (runPelt pick pr cost pen m delay n).2 :=
  gen_pelt_changepoints_eq_model _ n (pelt_backtrack hpick hpr hm hd hn hsplit).1

/-- the same for the instance that mirrors the code (first minimiser, strict pruning, delay `m - 1`) -/
theorem peltCode_backtracking_is_generated (cost : Nat → Nat → α) (pen : α) (m n : Nat)
    (hm : 1 ≤ m) (hn : 2 * m ≤ n) (hsplit : SplitIneq cost m n) :
    pelt_changepoints (peltIter argminL prStrict cost pen m (m - 1) (n + 1 - 2 * m)).prev n
      = some (runPeltCode cost pen m n).2 :=
  pelt_backtracking_is_generated argminL prStrict soundPick_argminL soundPrune_strict cost pen m (m - 1) n hm
    le_tsub_add hn hsplit

/-- **C02 on the regenerated back-tracking**: the segmentation that `get_changepoints`, as read off the current source,
    returns on the back-pointers of the recursion is admissible, its penalised cost is the final score, and no
    admissible segmentation costs less -/
theorem pelt_generated_backtracking_optimal (pick : (Nat → α) → List Nat → Nat) (pr : α → α → Bool)
    (hpick : SoundPick pick) (hpr : SoundPrune pr)
    (cost : Nat → Nat → α) (pen : α) (m delay n : Nat)
    (hm : 1 ≤ m) (hd : m ≤ delay + 1) (hn : 2 * m ≤ n) (hsplit : SplitIneq cost m n) :
    ∃ cps, pelt_changepoints (peltIter pick pr cost pen m delay (n + 1 - 2 * m)).prev n = some cps ∧
      ValidFrom m 0 cps n ∧
      segCost cost pen 0 cps n = (runPelt pick pr cost pen m delay n).1 n ∧
      ∀ cps', ValidFrom m 0 cps' n → (runPelt pick pr cost pen m delay n).1 n ≤ segCost cost pen 0 cps' n := by
  obtain ⟨h1, h2, h3⟩ := pelt_optimal pick pr hpick hpr cost pen m delay n hm hd hn hsplit
  exact ⟨_, pelt_backtracking_is_generated pick pr hpick hpr cost pen m delay n hm hd hn hsplit, h1, h2, h3⟩

end composed

/-! ### Non-vacuity -/

/-- a concrete back-pointer array meets the hypothesis of `gen_pelt_changepoints_eq_model` … -/
example : ∀ i, i < 6 → ([0, 0, 0, 2, 2, 4].getD i 0) ≤ i := by decide

/-- … and the regenerated function returns its changepoints (kernel evaluation of the generated definition) -/
example : pelt_changepoints (fun i => [0, 0, 0, 2, 2, 4].getD i 0) 6 = some [2, 4] := by decide

end Skc
