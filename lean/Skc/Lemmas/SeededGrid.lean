import Mathlib.Analysis.SpecialFunctions.Log.Basic
import Mathlib.Analysis.SpecialFunctions.Pow.Real
import Mathlib.Tactic.Linarith
import Mathlib.Tactic.Positivity
import Mathlib.Tactic.FieldSimp
import Mathlib.Tactic.Ring

/-! Justification of the repair of finding #27 (`make_seeded_intervals`): when the geometric length grid has
    at least `(2·max+1)·log(max/min)` steps, all its steps are below 1/2, so every integer length between
    `min` and `max` lies strictly within 1/2 of a grid point — whatever the rounding mode, the rounded and
    de-duplicated grid is the set of all integer lengths, which is what the repaired code returns directly. -/

namespace Skc

/-- discrete intermediate values: a real sequence whose steps are below 1/2 comes within 1/2 of every `m`
    between its first and last value (strictly: no rounding ties).  By induction on the last index: either `m` is
    already reached before it, or the last step jumps over `m` and, being shorter than 1/2, starts close below -/
theorem fine_grid_hits (x : ℕ → ℝ) (N : ℕ) (hgap : ∀ k, k < N → x (k + 1) - x k < 1 / 2)
    (m : ℝ) (h0 : x 0 ≤ m) (hN : m ≤ x N) : ∃ k, k ≤ N ∧ |x k - m| < 1 / 2 := by
  induction N with
  | zero =>
    exact ⟨0, le_rfl, abs_sub_lt_iff.2
      ⟨(sub_nonpos.2 h0).trans_lt one_half_pos, (sub_nonpos.2 hN).trans_lt one_half_pos⟩⟩
  | succ N ih =>
    rcases le_or_gt m (x N) with h | h
    · obtain ⟨k, hk, hkm⟩ := ih (fun k hk => hgap k (hk.trans N.lt_succ_self)) h
      exact ⟨k, hk.trans N.le_succ, hkm⟩
    · exact ⟨N, N.le_succ, abs_sub_lt_iff.2
        ⟨(sub_neg.2 h).trans one_half_pos, (sub_le_sub_right hN _).trans_lt (hgap N N.lt_succ_self)⟩⟩

/-- the geometric grid from `a` with ratio `(b/a)^(1/N)` ends at `b` -/
theorem geom_grid_end {a b : ℝ} {N : ℕ} (ha : 0 < a) (hb : 0 < b) (hN : N ≠ 0) :
    a * Real.exp (Real.log (b / a) / N) ^ N = b := by
  rw [← Real.exp_nat_mul, mul_div_cancel₀ _ (Nat.cast_ne_zero.2 hN), Real.exp_log (div_pos hb ha),
    mul_div_cancel₀ _ ha.ne']

/-- a geometric sequence `a·exp(y)ᵏ` that reaches `b` after `N` steps, with `(2b+1)·y ≤ 1`, moves by less than 1/2 per
    step up to there: a step is `a·exp(y)ᵏ⁺¹·(1 − exp(−y)) ≤ a·exp(y)ᵏ⁺¹·y ≤ b·y`, by `1 − y ≤ exp(−y)` -/
theorem geom_step_lt_half {a b y : ℝ} {k N : ℕ} (ha : 0 < a) (hy : 0 < y) (hby : (2 * b + 1) * y ≤ 1)
    (hend : a * Real.exp y ^ N = b) (hk : k < N) :
    a * Real.exp y ^ (k + 1) - a * Real.exp y ^ k < 1 / 2 :=
  calc a * Real.exp y ^ (k + 1) - a * Real.exp y ^ k = a * Real.exp y ^ (k + 1) * (1 - Real.exp (-y)) := by
        rw [Real.exp_neg, pow_succ, mul_sub, mul_one, ← mul_assoc, mul_inv_cancel_right₀ (Real.exp_pos y).ne']
    _ ≤ a * Real.exp y ^ (k + 1) * y :=
        mul_le_mul_of_nonneg_left (sub_le_comm.1 (Real.one_sub_le_exp_neg y)) (by positivity)
    _ ≤ b * y := by
        rw [← hend]
        exact mul_le_mul_of_nonneg_right
          (mul_le_mul_of_nonneg_left (pow_le_pow_right₀ (Real.one_le_exp hy.le) hk) ha.le) hy.le
    _ < 1 / 2 := by linear_combination (1 / 2) * hby + (1 / 2) * hy

/-- the geometric grid from `a` to `b` with `N ≥ (2b+1)·log(b/a)` steps comes strictly within 1/2 of every point
    of `[a, b]`: its ratio is `exp y` with `(2b+1)·y ≤ 1` -/
theorem geom_grid_hits {a b : ℝ} {N : ℕ} (ha : 0 < a) (hab : a < b)
    (hN : (2 * b + 1) * Real.log (b / a) ≤ N) {m : ℝ} (h1 : a ≤ m) (h2 : m ≤ b) :
    ∃ k, k ≤ N ∧ |a * Real.exp (Real.log (b / a) / N) ^ k - m| < 1 / 2 := by
  have hb : 0 < b := ha.trans hab
  have hlog : 0 < Real.log (b / a) := Real.log_pos ((one_lt_div ha).2 hab)
  have hN' : (0 : ℝ) < N := (mul_pos (by positivity) hlog).trans_le hN
  have hy : 0 < Real.log (b / a) / N := div_pos hlog hN'
  have hend := geom_grid_end ha hb (Nat.cast_pos.1 hN').ne'
  refine fine_grid_hits _ N (fun k hk => ?_) m (by rwa [pow_zero, mul_one]) (h2.trans_eq hend.symm)
  refine geom_step_lt_half ha hy ?_ hend hk
  rwa [← mul_div_assoc, div_le_one hN']

end Skc
