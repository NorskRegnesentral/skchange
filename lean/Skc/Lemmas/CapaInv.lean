import Skc.Model.Capa
import Skc.Lemmas.Pruning
import Skc.Spec.Anomalies
import Mathlib.Algebra.Order.Group.Defs
import Mathlib.Order.Basic
import Mathlib.Tactic.Abel

/-! The invariant of the CAPA main loop (`run_base_capa`) and its preservation (C03). -/
namespace Skc
set_option linter.unusedSectionVars false
/-- the state after an iteration at end `t + 1` that considers the collective starts `starts`,
    records the value `v` and the anomaly start `a` and decides to prune `prune` -/
def capaNext {α : Type} (M delay : Nat) (st : CapaSt α) (t : Nat) (starts : List Nat) (v : α) (a : Option Nat)
    (prune : List Nat) : CapaSt α :=
  let pending := st.pending ++ [prune]
  let now := if pending.length > delay then pending.headD [] else []
  { opt := upd st.opt (t + 1) v
    astart := upd st.astart t a
    starts := (starts.filter (fun s => ¬ now.contains s)).filter (fun s => ¬ (s + M ≤ t + 1))
    pending := if pending.length > delay then pending.tail else pending }

theorem AdmC.lt {m M s e : Nat} (hm : 1 ≤ m) (h : AdmC m M s e) : s < e :=
  Nat.lt_of_lt_of_le (Nat.lt_add_of_pos_right hm) h.1

variable {α : Type} [AddCommGroup α] [LinearOrder α] [IsOrderedAddMonoid α]

/-- evidence, fixed at decision time `e0`, that start `s` can be dropped for every end `≥ e0 + m` -/
def GoodC (PS : Nat → Nat → α) (K : α) (m : Nat) (opt : Nat → α) (s e0 : Nat) : Prop :=
  s + m ≤ e0 ∧ opt s + PS s e0 + K ≤ opt e0

/-- the state after `t` iterations: `opt e` is final for the prefix lengths `e ≤ t` -/
structure CInv (PS : Nat → Nat → α) (PP : Nat → α) (K : α) (m M delay t : Nat) (st : CapaSt α) : Prop where
  opt0 : st.opt 0 = 0
  /-- an active start is long enough for a collective anomaly ending at `t` and not too long for one
      ending at `t + 1` -/
  starts_adm : ∀ s ∈ st.starts, s + m ≤ t ∧ t + 1 ≤ s + M
  /-- every such start is active or droppable from the next end on -/
  cover : ∀ s, s + m ≤ t → t + 1 ≤ s + M →
      s ∈ st.starts ∨ ∃ e0, GoodC PS K m st.opt s e0 ∧ e0 + m ≤ t + 1 ∧ e0 ≤ t
  /-- pending prune sets: the i-th newest was decided at end `t - i` -/
  pend : ∀ i P, st.pending.reverse[i]? = some P → ∀ s ∈ P, i + 1 ≤ t ∧ GoodC PS K m st.opt s (t - i)
  /-- a decision waits at most `delay` iterations -/
  pend_len : st.pending.length ≤ delay
  /-- Bellman inequalities: `opt (e + 1)` is at least "no anomaly at `e`", … -/
  mono : ∀ e, e < t → st.opt e ≤ st.opt (e + 1)
  /-- … "point anomaly `[e, e+1)`" … -/
  bpoint : ∀ e, e < t → st.opt e + PP e ≤ st.opt (e + 1)
  /-- … and every admissible collective anomaly ending there, its start pruned or not -/
  bcoll : ∀ e, e ≤ t → ∀ s, AdmC m M s e → st.opt s + PS s e ≤ st.opt e
  /-- Bellman equation: what `astart e` records attains `opt (e + 1)` -/
  beq : ∀ e, e < t →
      (st.astart e = none ∧ st.opt (e + 1) = st.opt e) ∨
      (st.astart e = some e ∧ st.opt (e + 1) = st.opt e + PP e) ∨
      (∃ s, st.astart e = some s ∧ AdmC m M s (e + 1) ∧ st.opt (e + 1) = st.opt s + PS s (e + 1))
  /-- an anomaly is only recorded when it strictly improves on "no anomaly" (ties go to none) -/
  strict : ∀ e, e < t → st.astart e ≠ none → st.opt e < st.opt (e + 1)

theorem cinv_init (PS : Nat → Nat → α) (PP : Nat → α) (K : α) (m M delay : Nat) (hm : 1 ≤ m) :
    CInv PS PP K m M delay 0 (capaInit : CapaSt α) := by
  refine ⟨rfl, ?_, ?_, ?_, ?_, ?_, ?_, ?_, ?_, ?_⟩
  · intro s hs; cases hs
  · intro s h; omega
  · intro i P h; cases h
  · exact Nat.zero_le _
  · intro e h; exact absurd h (Nat.not_lt_zero e)
  · intro e h; exact absurd h (Nat.not_lt_zero e)
  · exact fun e he s hs => absurd (Nat.lt_of_lt_of_le (hs.lt hm) he) (Nat.not_lt_zero s)
  · intro e h; exact absurd h (Nat.not_lt_zero e)
  · intro e h; exact absurd h (Nat.not_lt_zero e)

/-- the one fact about the penalised savings that pruning relies on -/
def PruneIneq (PS : Nat → Nat → α) (K : α) (m M n : Nat) : Prop :=
  ∀ s e0 T, s + m ≤ e0 → e0 + m ≤ T → T ≤ s + M → T ≤ n → PS s T ≤ PS s e0 + PS e0 T + K

/-- a selector for the starts is sound when it returns a member that maximises -/
def SoundPickMax (pick : (Nat → α) → List Nat → Nat) : Prop :=
  (∀ (f : Nat → α) (l : List Nat), l ≠ [] → pick f l ∈ l) ∧
  (∀ (f : Nat → α) (l : List Nat), ∀ x ∈ l, f x ≤ f (pick f l))

/-- a pruning test is sound when it only fires for `candidate + slack ≤ optimum` -/
def SoundPruneC (pr : α → α → Bool) : Prop := ∀ x v, pr x v = true → x ≤ v

/-- the evidence only reads `opt` up to its decision time -/
theorem GoodC.upd {PS : Nat → Nat → α} {K : α} {m s e0 e : Nat} {opt : Nat → α}
    (h : GoodC PS K m opt s e0) (he : e0 < e) (v : α) : GoodC PS K m (upd opt e v) s e0 :=
  ⟨h.1, by
    rw [upd_of_lt _ _ he, upd_of_lt _ _ (Nat.lt_of_le_of_lt (Nat.le_of_add_right_le h.1) he)]
    exact h.2⟩

variable {PS : Nat → Nat → α} {PP : Nat → α} {K : α} {m M delay t n : Nat} {st : CapaSt α}
  (inv : CInv PS PP K m M delay t st) (hm : 1 ≤ m) (htn : t + 1 ≤ n) (H : PruneIneq PS K m M n)
include inv hm htn H

/-- domination: every admissible collective start for the new end `t + 1` is weakly beaten by an
    active start or the newest one. -/
theorem CInv.cover_ge : ∀ s, AdmC m M s (t + 1) → ∃ s', (s' ∈ st.starts ∨ s' + m = t + 1) ∧
    st.opt s + PS s (t + 1) ≤ st.opt s' + PS s' (t + 1) := by
  refine exists_active_of_dominated (t + 1) (fun _ => le_refl _) (fun h1 h2 => le_trans h2 h1)
    (fun s => AdmC.lt hm) ?_
  intro s ⟨h1, h2⟩
  rcases Nat.of_le_succ h1 with hlt | hnew
  · rcases inv.cover s hlt h2 with hmem | ⟨e0, ⟨hse0, hle⟩, he0m, he0t⟩
    · exact Or.inl (Or.inl hmem)
    · have hlt' : s < e0 := Nat.lt_of_lt_of_le (Nat.lt_add_of_pos_right hm) hse0
      refine Or.inr ⟨e0, hlt', ⟨he0m, h2.trans (Nat.add_le_add_right hlt'.le M)⟩, ?_⟩
      -- `opt s + PS(s,T) ≤ opt s + (PS(s,e0) + PS(e0,T) + K) = (opt s + PS(s,e0) + K) + PS(e0,T)`, and
      -- the bracket is at most `opt e0`
      refine (add_le_add_right (H s e0 (t + 1) hse0 he0m h2 htn) _).trans
        (le_of_eq_of_le ?_ (add_le_add_left hle _))
      abel
  · exact Or.inl (Or.inr hnew)

/-- The invariant survives an iteration whatever is recorded, provided the value `v` is at least
    "no anomaly", "point anomaly" and every candidate collective anomaly, is attained by the
    recorded choice `a` (strictly above "no anomaly" unless `a = none`), and only starts whose
    candidate value plus `K` is at most `v` are queued for pruning.  (`starts` is a variable known
    through its members only, `hstarts`: the model's list is
    `if m ≤ t + 1 then st.starts ++ [t + 1 - m] else st.starts`.) -/
theorem CInv.next (hmM : m ≤ M) (hd : m ≤ delay + 1)
    {starts prune : List Nat} {v : α} {a : Option Nat}
    (hstarts : ∀ s, s ∈ starts ↔ s ∈ st.starts ∨ s + m = t + 1)
    (hnone : st.opt t ≤ v) (hpoint : st.opt t + PP t ≤ v)
    (hcoll : ∀ s ∈ starts, st.opt s + PS s (t + 1) ≤ v)
    (hv : (a = none ∧ v = st.opt t) ∨ (a = some t ∧ v = st.opt t + PP t) ∨
      ∃ s ∈ starts, a = some s ∧ v = st.opt s + PS s (t + 1))
    (hstrict : a ≠ none → st.opt t < v)
    (hprune : ∀ s ∈ prune, s ∈ starts ∧ st.opt s + PS s (t + 1) + K ≤ v) :
    CInv PS PP K m M delay (t + 1) (capaNext M delay st t starts v a prune) := by
  have hadm : ∀ s ∈ starts, AdmC m M s (t + 1) := by
    intro s hs
    unfold AdmC
    rcases (hstarts s).1 hs with h | h
    · exact (inv.starts_adm s h).imp_left Nat.le_succ_of_le
    · exact ⟨h.le, h.symm.le.trans (Nat.add_le_add_left hmM s)⟩
  have hfr : ∀ j, j ≤ t → upd st.opt (t + 1) v j = st.opt j :=
    fun j hj => upd_of_lt _ _ (Nat.lt_succ_of_le hj)
  -- a start of an anomaly ending by `t + 1` lies below the new entry
  have hfrA : ∀ {s e}, AdmC m M s e → e ≤ t + 1 → upd st.opt (t + 1) v s = st.opt s :=
    fun hs he => upd_of_lt _ _ (Nat.lt_of_lt_of_le (hs.lt hm) he)
  have hgood : ∀ s ∈ prune, GoodC PS K m (upd st.opt (t + 1) v) s (t + 1) := by
    intro s hs
    obtain ⟨hs1, hs2⟩ := hprune s hs
    exact ⟨(hadm s hs1).1, by rw [upd_same, hfrA (hadm s hs1) le_rfl]; exact hs2⟩
  have hq := pend_push (G' := GoodC PS K m (upd st.opt (t + 1) v)) rfl inv.pend hgood
    fun s e he hg => hg.upd he v
  have hlen := length_push_le (P := prune) inv.pend_len
  constructor <;> dsimp only [capaNext]
  case opt0 => rw [hfr 0 (Nat.zero_le t)]; exact inv.opt0
  case starts_adm =>
    intro s hs
    obtain ⟨hs1, hs2⟩ := List.mem_filter.1 hs
    exact ⟨(hadm s (List.mem_filter.1 hs1).1).1, Nat.lt_of_not_le (of_decide_eq_true hs2)⟩
  case cover =>
    intro s h1 h2
    have hM : decide (¬ s + M ≤ t + 1) = true := decide_eq_true (Nat.not_le_of_lt h2)
    by_cases hin : s ∈ starts
    · -- a start dropped now was decided `delay` iterations ago, at end `t + 1 - delay`; `m ≤ delay + 1`
      -- is what makes that decision old enough: `(t + 1 - delay) + m ≤ t + 2`, the next end
      exact (mem_or_due hlen hq hin).imp (fun h => List.mem_filter.2 ⟨h, hM⟩)
        fun h => ⟨t + 1 - delay, h.2, by omega, Nat.sub_le _ _⟩
    · -- never active: droppable already in the pre-state
      have hlt : s + m ≤ t := (Nat.of_le_succ h1).resolve_right fun h => hin ((hstarts s).2 (Or.inr h))
      rcases inv.cover s hlt (Nat.le_of_succ_le h2) with h | ⟨e0, hg, he0m, he0t⟩
      · exact absurd ((hstarts s).2 (Or.inl h)) hin
      · exact Or.inr ⟨e0, hg.upd (Nat.lt_succ_of_le he0t) v, Nat.le_succ_of_le he0m, Nat.le_succ_of_le he0t⟩
  case pend => exact aged_rest hq
  case pend_len => exact rest_length hlen
  case mono =>
    intro e he
    rcases Nat.lt_succ_iff_lt_or_eq.1 he with hlt | rfl
    · rw [hfr e hlt.le, hfr (e + 1) hlt]; exact inv.mono e hlt
    · rw [upd_same, hfr e le_rfl]; exact hnone
  case bpoint =>
    intro e he
    rcases Nat.lt_succ_iff_lt_or_eq.1 he with hlt | rfl
    · rw [hfr e hlt.le, hfr (e + 1) hlt]; exact inv.bpoint e hlt
    · rw [upd_same, hfr e le_rfl]; exact hpoint
  case bcoll =>
    intro e he s hs
    rw [hfrA hs he]
    rcases Nat.of_le_succ he with hle | rfl
    · rw [hfr e hle]; exact inv.bcoll e hle s hs
    · rw [upd_same]
      obtain ⟨s', hs', hle⟩ := inv.cover_ge hm htn H s hs
      exact le_trans hle (hcoll s' ((hstarts s').2 hs'))
  case beq =>
    intro e he
    rcases Nat.lt_succ_iff_lt_or_eq.1 he with hlt | rfl
    · rw [upd_of_ne _ _ (Nat.ne_of_lt hlt), hfr (e + 1) hlt, hfr e hlt.le]
      exact (inv.beq e hlt).imp_right <| Or.imp_right fun ⟨s, h1, h2, h3⟩ =>
        ⟨s, h1, h2, by rw [hfrA h2 (Nat.succ_le_succ hlt.le)]; exact h3⟩
    · rw [upd_same, upd_same, hfr e le_rfl]
      exact hv.imp_right <| Or.imp_right fun ⟨s, hs, h1, h2⟩ =>
        ⟨s, h1, hadm s hs, by rw [hfrA (hadm s hs) le_rfl]; exact h2⟩
  case strict =>
    intro e he
    rcases Nat.lt_succ_iff_lt_or_eq.1 he with hlt | rfl
    · rw [upd_of_ne _ _ (Nat.ne_of_lt hlt), hfr (e + 1) hlt, hfr e hlt.le]
      exact inv.strict e hlt
    · rw [upd_same, upd_same, hfr e le_rfl]; exact hstrict

theorem CInv.step {pick : (Nat → α) → List Nat → Nat} {pr : α → α → Bool}
    (hpick : SoundPickMax pick) (hpr : SoundPruneC pr) (hmM : m ≤ M) (hd : m ≤ delay + 1) :
    CInv PS PP K m M delay (t + 1) (capaStep pick pr PS PP K m M delay st t) := by
  unfold capaStep
  extract_lets e starts cand best vNone vPoint collWins v a prune
  have hstarts : ∀ s, s ∈ starts ↔ s ∈ st.starts ∨ s + m = t + 1 := fun s => mem_capaCands
  have hge : ∀ x ∈ starts, cand x ≤ cand best := hpick.2 cand starts
  have hprune : ∀ s ∈ prune, s ∈ starts ∧ cand s + K ≤ v :=
    fun s hs => ⟨(List.mem_filter.1 hs).1, hpr _ _ (List.mem_filter.1 hs).2⟩
  -- `np.argmax([none, collective, point])`: the three ways the first maximiser can fall
  by_cases hc : collWins
  · simp only [v, a, if_pos hc] at hprune ⊢
    exact inv.next hm htn H hmM hd hstarts (le_of_lt hc.2.1) (not_lt.1 hc.2.2) hge
      (Or.inr (Or.inr ⟨best, hpick.1 cand starts hc.1, rfl, rfl⟩)) (fun _ => hc.2.1) hprune
  · have hlose : ∀ s ∈ starts, cand s ≤ vNone ∨ cand s < vPoint := by
      intro s hs
      rcases not_and_or.1 (fun h => hc ⟨List.ne_nil_of_mem hs, h⟩) with h | h
      · exact Or.inl (le_trans (hge s hs) (not_lt.1 h))
      · exact Or.inr (lt_of_le_of_lt (hge s hs) (not_not.1 h))
    by_cases hp : vNone < vPoint
    · simp only [v, a, if_neg hc, if_pos hp] at hprune ⊢
      exact inv.next hm htn H hmM hd hstarts (le_of_lt hp) le_rfl
        (fun s hs => (hlose s hs).elim (fun h => le_trans h (le_of_lt hp)) le_of_lt)
        (Or.inr (Or.inl ⟨rfl, rfl⟩)) (fun _ => hp) hprune
    · simp only [v, a, if_neg hc, if_neg hp] at hprune ⊢
      exact inv.next hm htn H hmM hd hstarts le_rfl (not_lt.1 hp)
        (fun s hs => (hlose s hs).elim id fun h => le_trans (le_of_lt h) (not_lt.1 hp))
        (Or.inl ⟨rfl, rfl⟩) (fun h => absurd rfl h) hprune

omit inv hm htn H in
theorem cinv_allG (pick : (Nat → α) → List Nat → Nat) (pr : α → α → Bool)
    (hpick : SoundPickMax pick) (hpr : SoundPruneC pr)
    (PS : Nat → Nat → α) (PP : Nat → α) (K : α) (m M delay n : Nat)
    (hm : 1 ≤ m) (hmM : m ≤ M) (hd : m ≤ delay + 1) (H : PruneIneq PS K m M n) :
    ∀ t, t ≤ n → CInv PS PP K m M delay t (capaIterG pick pr PS PP K m M delay t) := by
  intro t
  induction t with
  | zero => intro _; exact cinv_init PS PP K m M delay hm
  | succ t ih =>
    intro ht
    exact (ih (Nat.le_of_succ_le ht)).step hm ht H hpick hpr hmM hd

end Skc
