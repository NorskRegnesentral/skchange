import Skc.Lemmas.Pen
import Mathlib.Algebra.Order.BigOperators.Group.List

/-! The dense and the equal-betas branch of `penalise_savings` against the *specification*: the best,
    over non-empty selections of components, of their summed savings minus the constant penalty (once)
    minus the per-component penalties of that many components (C03).  The general branch is
    `penGeneral_isBest`. -/
namespace Skc
set_option linter.unusedSectionVars false
variable {α : Type} [AddCommGroup α] [LinearOrder α] [IsOrderedAddMonoid α]

theorem subperm_sum_le_of_nonneg {J sav : List α} (h : J.Subperm sav) (hs : ∀ s ∈ sav, 0 ≤ s) :
    J.sum ≤ sav.sum := by
  obtain ⟨J', hperm, hsub⟩ := h
  rw [← hperm.sum_eq]
  exact hsub.sum_le_sum hs

theorem dense_isBest {sav : List α} (alpha : α) {betas : List α} (hp : sav ≠ [])
    (hb : ∀ b ∈ betas, b = 0) (hs : ∀ s ∈ sav, 0 ≤ s) :
    IsBestSel sav alpha betas (sav.sum - alpha) := by
  have h0 : ∀ J : List α, selVal alpha betas J = J.sum - alpha := fun J => by
    rw [selVal, List.sum_eq_zero fun b hb' => hb b (List.mem_of_mem_take hb'), sub_zero]
  refine ⟨⟨sav, List.Subperm.refl _, hp, h0 sav⟩, fun J hJ _ => ?_⟩
  rw [h0]
  exact sub_le_sub_right (subperm_sum_le_of_nonneg hJ hs) alpha

/-- `pos b s = max(s − b, 0)`: the penalty `b` comes first and the saving `s` second, so that `pos b` maps
    over a savings vector; the `if` is the one in `penalise`, the model of `np.maximum(savings - betas[0], 0.0)` -/
def pos (b : α) (s : α) : α := if s - b < 0 then 0 else s - b

theorem pos_nonneg (b s : α) : 0 ≤ pos b s := by
  unfold pos; split
  · exact le_refl _
  · rename_i h; exact not_lt.1 h

theorem sub_le_pos (b s : α) : s - b ≤ pos b s := by
  unfold pos; split
  · rename_i h; exact le_of_lt h
  · exact le_refl _

theorem sum_map_pos_nonneg (b : α) (l : List α) : 0 ≤ (l.map (pos b)).sum :=
  List.sum_nonneg (List.forall_mem_map.2 fun s _ => pos_nonneg b s)

/-- with one common beta a selection is charged `b` per member -/
theorem selVal_equal (alpha : α) {b : α} {betas : List α} (hb : ∀ x ∈ betas, x = b) (J : List α)
    (hJ : J.length ≤ betas.length) : selVal alpha betas J = (J.map (· - b)).sum - alpha := by
  rw [selVal, List.sum_eq_card_nsmul (betas.take J.length) b fun x hx => hb x (List.mem_of_mem_take hx),
    List.length_take, Nat.min_eq_left hJ, sub_left_inj, sub_eq_iff_eq_add]
  -- `Σ J = Σ (x − b) + |J| • b`
  rw [← List.sum_replicate, ← List.map_const' (l := J), ← List.sum_map_add]
  simp only [sub_add_cancel, List.map_id']

theorem equal_ge (alpha : α) {sav betas : List α} {b : α} (hb : ∀ x ∈ betas, x = b)
    (hlen : betas.length = sav.length) {J : List α} (hJ : J.Subperm sav) :
    selVal alpha betas J ≤ (sav.map (pos b)).sum - alpha := by
  rw [selVal_equal alpha hb J (hlen ▸ hJ.length_le)]
  obtain ⟨J', hp, hs⟩ := hJ
  exact sub_le_sub_right ((List.sum_le_sum fun s _ => sub_le_pos b s).trans <|
    subperm_sum_le_of_nonneg ⟨J'.map (pos b), hp.map _, hs.map _⟩
      (List.forall_mem_map.2 fun s _ => pos_nonneg b s)) alpha

/-- the members with `s ≥ b` carry the whole sum -/
theorem sum_map_pos_eq_filter (b : α) (l : List α) :
    (l.map (pos b)).sum = ((l.filter (fun s => decide (¬ s - b < 0))).map (fun s => s - b)).sum := by
  unfold pos
  rw [List.sum_map_ite, List.sum_map_zero, zero_add]

/-- equal-betas branch: when the value exceeds `−alpha` it is attained, hence the specification's -/
theorem equal_isBest {sav betas : List α} {alpha b : α} (hb : ∀ x ∈ betas, x = b)
    (hlen : betas.length = sav.length) (hpos : -alpha < (sav.map (pos b)).sum - alpha) :
    IsBestSel sav alpha betas ((sav.map (pos b)).sum - alpha) := by
  refine ⟨?_, fun J hJ _ => equal_ge alpha hb hlen hJ⟩
  rw [sum_map_pos_eq_filter] at hpos ⊢
  refine ⟨sav.filter _, List.filter_sublist.subperm, fun hnil => ?_,
    selVal_equal alpha hb _ (hlen ▸ List.filter_sublist.length_le)⟩
  rw [hnil] at hpos
  simp at hpos

end Skc
