import Mathlib.Analysis.Matrix.Order
import Mathlib.Analysis.Matrix.PosDef
import Skc.Lemmas.GaussCov

/-! The multivariate Gaussian cost: the optimal-parameter cost never exceeds the cost at a fixed mean and
    covariance, and splitting an interval never increases the optimal-parameter cost (C06).  Both are
    statements about the *definition* from the rows; positive definiteness of the sample covariances is a
    hypothesis because the code raises its documented error otherwise. -/
open Matrix Finset
open scoped MatrixOrder
namespace Skc
variable {p : ℕ}

/-- `log det M ≤ tr M − p` for a positive definite matrix (eigenvalue-wise `log λ ≤ λ − 1`) -/
theorem log_det_le_trace_sub {n : Type*} [Fintype n] [DecidableEq n] (M : Matrix n n ℝ) (hM : M.PosDef) :
    Real.log M.det ≤ M.trace - Fintype.card n := by
  have hH := hM.isHermitian
  rw [hH.det_eq_prod_eigenvalues, hH.trace_eq_sum_eigenvalues, Fintype.card, Finset.cast_card,
    ← Finset.sum_sub_distrib]
  simp only [RCLike.ofReal_real_eq_id, id]
  rw [Real.log_prod (fun i _ => (hM.eigenvalues_pos i).ne')]
  exact Finset.sum_le_sum fun i _ => Real.log_le_sub_one_of_pos (hM.eigenvalues_pos i)

/-- `log det B − log det A ≤ tr(A⁻¹ B) − p` for positive definite `A`, `B` -/
theorem log_det_sub_le_trace {n : Type*} [Fintype n] [DecidableEq n] (A B : Matrix n n ℝ)
    (hA : A.PosDef) (hB : B.PosDef) :
    Real.log B.det - Real.log A.det ≤ (A⁻¹ * B).trace - Fintype.card n := by
  -- `A⁻¹ = C⋆ C` with `C` invertible: `C B C⋆` is positive definite, has the trace of `A⁻¹ B` and the
  -- determinant `det B / det A`
  obtain ⟨C, hCu, hC⟩ :=
    CStarAlgebra.isStrictlyPositive_iff_eq_star_mul_self.mp hA.inv.isStrictlyPositive
  have h := log_det_le_trace_sub _ ((hCu.posDef_star_right_conjugate_iff (x := B)).mpr hB)
  rwa [Matrix.trace_mul_cycle, ← hC, Matrix.det_mul, Matrix.det_mul, mul_right_comm, ← Matrix.det_mul,
    Matrix.det_mul_comm, ← hC, Matrix.det_nonsing_inv, Ring.inverse_eq_inv',
    Real.log_mul (inv_ne_zero hA.det_pos.ne') hB.det_pos.ne', Real.log_inv, neg_add_eq_sub] at h

/-- the quadratic forms `Σ_i (x_i − μ)ᵀ P (x_i − μ)` summed over the rows `[s, e)`, written as the code
    computes them (`np.sum(Xc @ P * Xc)`) -/
noncomputable def quadSum (x : ℕ → Fin p → ℝ) (μ : Fin p → ℝ) (P : Matrix (Fin p) (Fin p) ℝ) (s e : ℕ) : ℝ :=
  ∑ i ∈ Ico s e, ∑ k, (∑ j, (x i j - μ j) * P j k) * (x i k - μ k)

/-- multivariate Gaussian cost at a fixed mean `μ` and covariance `Sg`: twice the negative log-likelihood -/
noncomputable def gcovFixed (x : ℕ → Fin p → ℝ) (μ : Fin p → ℝ) (Sg : Matrix (Fin p) (Fin p) ℝ) (s e : ℕ) : ℝ :=
  ((e : ℝ) - s) * p * Real.log (2 * Real.pi) + ((e : ℝ) - s) * Real.log Sg.det + quadSum x μ Sg⁻¹ s e

theorem sum_dev_zero (x : ℕ → Fin p → ℝ) (s e : ℕ) (h : s < e) (j : Fin p) :
    ∑ i ∈ Ico s e, (x i j - meanVec x s e j) = 0 := by
  rw [sum_sub_distrib, sum_const, Nat.card_Ico, nsmul_eq_mul, Nat.cast_sub h.le, meanVec,
    mul_div_cancel₀ _ (len_pos h).ne', sub_self]

/-- König–Huygens: shifting two centred families by constants adds `|T| α β` to their sum of products -/
theorem sum_add_mul_add {ι : Type*} (T : Finset ι) (u v : ι → ℝ) (α β : ℝ)
    (hu : ∑ i ∈ T, u i = 0) (hv : ∑ i ∈ T, v i = 0) :
    ∑ i ∈ T, (u i + α) * (v i + β) = ∑ i ∈ T, u i * v i + T.card * (α * β) := by
  simp only [add_mul, mul_add, sum_add_distrib, ← sum_mul, ← mul_sum, hu, hv, zero_mul, mul_zero, add_zero, zero_add,
    sum_const, nsmul_eq_mul, mul_assoc]

theorem sum_prod_dev (x : ℕ → Fin p → ℝ) (μ : Fin p → ℝ) (s e : ℕ) (h : s < e) (j k : Fin p) :
    ∑ i ∈ Ico s e, (x i j - μ j) * (x i k - μ k)
      = ((e : ℝ) - s) * covMat x s e j k
        + ((e : ℝ) - s) * ((meanVec x s e j - μ j) * (meanVec x s e k - μ k)) := by
  have := sum_add_mul_add (Ico s e) (fun i => x i j - meanVec x s e j) (fun i => x i k - meanVec x s e k)
    (meanVec x s e j - μ j) (meanVec x s e k - μ k) (sum_dev_zero x s e h j) (sum_dev_zero x s e h k)
  simp only [sub_add_sub_cancel, Nat.card_Ico, Nat.cast_sub h.le] at this
  rw [this, covMat, mul_div_cancel₀ _ (len_pos h).ne']

theorem quadSum_eq (x : ℕ → Fin p → ℝ) (μ : Fin p → ℝ) (P : Matrix (Fin p) (Fin p) ℝ) (s e : ℕ) (h : s < e) :
    quadSum x μ P s e
      = ((e : ℝ) - s) * (P * covMat x s e).trace
        + ((e : ℝ) - s) * ((fun j => meanVec x s e j - μ j) ᵥ* P ⬝ᵥ fun j => meanVec x s e j - μ j) := by
  -- sum over the rows first: entry `(k, j)` of the scatter matrix around `μ`, which `sum_prod_dev` splits
  have h1 : quadSum x μ P s e = ∑ k, ∑ j, (∑ i ∈ Ico s e, (x i k - μ k) * (x i j - μ j)) * P j k := by
    simp only [quadSum, sum_mul]
    rw [sum_comm]
    refine sum_congr rfl fun k _ => ?_
    rw [sum_comm]
    exact sum_congr rfl fun j _ => sum_congr rfl fun i _ => (mul_rotate _ _ _).symm
  rw [h1, Matrix.trace_mul_comm, dotProduct_comm]
  simp only [sum_prod_dev x μ s e h, add_mul, sum_add_distrib, mul_assoc, ← mul_sum]
  -- what is left are the entries of `tr (C P)` and of `δ ⬝ᵥ δ P` written out
  rfl

/-- the arithmetic of `gcovCost ≤ gcovFixed` once both are unfolded and `quadSum_eq` is applied.  `n` is the
    number of rows, `p` the dimension, `l = log 2π`; `dS`, `dG` are the log-determinants of the sample
    covariance `S` and of the fixed covariance `G`, `t = tr (G⁻¹ S)`, and `q ≥ 0` is the quadratic form of the
    difference of the means.  The right side exceeds the left by `n ((t − p) − (dS − dG)) + n q`. -/
theorem cost_le_of_logdet_le {n p l dS dG t q : ℝ} (hn : 0 ≤ n) (h1 : dS - dG ≤ t - p) (h2 : 0 ≤ q) :
    n * p * l + n * dS + n * p ≤ n * p * l + n * dG + (n * t + n * q) := by
  linear_combination n * h1 + n * h2

/-- **optimal ≤ fixed** for the multivariate Gaussian cost -/
theorem gcovCost_le_gcovFixed (x : ℕ → Fin p → ℝ) (μ : Fin p → ℝ) (Sg : Matrix (Fin p) (Fin p) ℝ)
    (s e : ℕ) (h : s < e) (hSg : Sg.PosDef) (hS : (covMat x s e).PosDef) :
    gcovCost x s e ≤ gcovFixed x μ Sg s e := by
  have h1 := log_det_sub_le_trace Sg (covMat x s e) hSg hS
  have h2 := hSg.inv.posSemidef.dotProduct_mulVec_nonneg (fun j => meanVec x s e j - μ j)
  rw [star_trivial, dotProduct_mulVec] at h2
  rw [Fintype.card_fin] at h1
  rw [gcovCost, gcovFixed, quadSum_eq x μ Sg⁻¹ s e h]
  exact cost_le_of_logdet_le (len_pos h).le h1 h2

theorem gcovFixed_add (x : ℕ → Fin p → ℝ) (μ : Fin p → ℝ) (Sg : Matrix (Fin p) (Fin p) ℝ)
    (s k e : ℕ) (h1 : s ≤ k) (h2 : k ≤ e) :
    gcovFixed x μ Sg s k + gcovFixed x μ Sg k e = gcovFixed x μ Sg s e := by
  simp only [gcovFixed, quadSum]
  rw [← Finset.sum_Ico_consecutive _ h1 h2]
  ring

theorem gcovFixed_at_mle (x : ℕ → Fin p → ℝ) (s e : ℕ) (h : s < e) (hS : (covMat x s e).PosDef) :
    gcovFixed x (meanVec x s e) (covMat x s e) s e = gcovCost x s e := by
  have hu : IsUnit (covMat x s e).det := isUnit_iff_ne_zero.mpr hS.det_pos.ne'
  simp only [gcovFixed, gcovCost, quadSum_eq x _ _ s e h, Matrix.nonsing_inv_mul _ hu, Matrix.trace_one,
    Fintype.card_fin, sub_self, dotProduct, Finset.sum_const_zero, mul_zero, add_zero]

/-- **splitting never increases the optimal-parameter cost** (multivariate Gaussian) -/
theorem gcovCost_split_le (x : ℕ → Fin p → ℝ) (s k e : ℕ) (h1 : s < k) (h2 : k < e)
    (hS : (covMat x s e).PosDef) (hS1 : (covMat x s k).PosDef) (hS2 : (covMat x k e).PosDef) :
    gcovCost x s k + gcovCost x k e ≤ gcovCost x s e := by
  rw [← gcovFixed_at_mle x s e (h1.trans h2) hS, ← gcovFixed_add x _ _ s k e h1.le h2.le]
  exact add_le_add (gcovCost_le_gcovFixed x _ _ s k h1 hS hS1) (gcovCost_le_gcovFixed x _ _ k e h2 hS hS2)

theorem gcovChange_nonneg (x : ℕ → Fin p → ℝ) (s k e : ℕ) (h1 : s < k) (h2 : k < e)
    (hS : (covMat x s e).PosDef) (hS1 : (covMat x s k).PosDef) (hS2 : (covMat x k e).PosDef) :
    0 ≤ gcovChange x s k e := by
  rw [gcovChange, sub_sub, sub_nonneg]
  exact gcovCost_split_le x s k e h1 h2 hS hS1 hS2

end Skc
