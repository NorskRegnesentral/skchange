import Skc.Model.Det
import Skc.Lemmas.Select
import Mathlib.Order.Lattice  -- fixes the `LinearOrder → LT` instance path the C07 statements elaborate to

/-! Seeded binary segmentation (C07, C04): the interval layout (`seededFrom`), the per-interval argmax
    (`amoc`), and what "pick `i` kills interval `j`" means on the intervals. -/
namespace Skc

/-! ### the seeded-interval layout -/

theorem lt_nSteps {n len step i : Nat} (hstep : 1 ≤ step) (h : i < nSteps n len step) :
    i * step + len < n := by
  have h2 : (i + 1) * step ≤ n - len + step - 1 := (Nat.le_div_iff_mul_le hstep).1 h
  rw [Nat.succ_mul] at h2
  omega

/-- the last interval of a block, started at `s`: clipped at `n` and, if that left it shorter than
    `minLen`, moved to `[n - minLen, n)`.  It is named by the equation `hiv` because that is what
    membership in the one-element tail of `seededBlock` unfolds to, with `s = nSteps n len step * step`. -/
theorem lastInterval_spec {n minLen len s : Nat} (h1 : 1 ≤ minLen) (h2 : minLen ≤ len) (h3 : len ≤ n)
    {iv : Nat × Nat}
    (hiv : iv = if min (s + len) n - s < minLen then (n - minLen, min (s + len) n)
      else (s, min (s + len) n)) :
    iv.2 ≤ n ∧ iv.1 + minLen ≤ iv.2 ∧ iv.2 ≤ iv.1 + len := by
  subst hiv
  rcases Nat.le_total (s + len) n with hle | hle
  · rw [Nat.min_eq_left hle, Nat.add_sub_cancel_left, if_neg (Nat.not_lt.2 h2)]
    exact ⟨hle, Nat.add_le_add_left h2 s, Nat.le_refl _⟩
  · rw [Nat.min_eq_right hle]
    split
    · simp only
      omega
    · simp only
      omega

theorem seededBlock_spec (n minLen len step : Nat) (h1 : 1 ≤ minLen) (h2 : minLen ≤ len)
    (h3 : len ≤ n) (hstep : 1 ≤ step) :
    ∀ iv ∈ seededBlock n minLen len step, iv.2 ≤ n ∧ iv.1 + minLen ≤ iv.2 ∧ iv.2 ≤ iv.1 + len := by
  intro iv hiv
  simp only [seededBlock, List.mem_append, List.mem_map, List.mem_range, List.mem_singleton] at hiv
  rcases hiv with ⟨i, hi, rfl⟩ | hiv
  · have := lt_nSteps hstep hi
    rw [Nat.min_eq_left (Nat.le_of_lt this)]
    exact ⟨Nat.le_of_lt this, Nat.add_le_add_left h2 _, Nat.le_refl _⟩
  · exact lastInterval_spec h1 h2 h3 hiv

theorem seededBlock_ne_nil {n minLen len step : Nat} : seededBlock n minLen len step ≠ [] :=
  List.append_ne_nil_of_right_ne_nil _ (List.cons_ne_nil _ _)

/-- a schedule is admissible when every length is between `minLen` and `min maxLen n` and every
    step is positive -/
def AdmissibleSchedule (n minLen maxLen : Nat) (sched : List (Nat × Nat)) : Prop :=
  sched ≠ [] ∧ ∀ ls ∈ sched, minLen ≤ ls.1 ∧ ls.1 ≤ min maxLen n ∧ 1 ≤ ls.2

theorem seededFrom_spec (n minLen maxLen : Nat) (sched : List (Nat × Nat)) (h1 : 1 ≤ minLen)
    (hs : AdmissibleSchedule n minLen maxLen sched) :
    seededFrom n minLen sched ≠ [] ∧
    ∀ iv ∈ seededFrom n minLen sched,
      iv.2 ≤ n ∧ iv.1 + minLen ≤ iv.2 ∧ iv.2 ≤ iv.1 + min maxLen n := by
  obtain ⟨hne, hall⟩ := hs
  constructor
  · intro h
    cases sched with
    | nil => exact hne rfl
    | cons ls rest =>
      simp only [seededFrom, List.flatMap_cons, List.append_eq_nil_iff] at h
      exact seededBlock_ne_nil h.1
  · intro iv hiv
    simp only [seededFrom, List.mem_flatMap] at hiv
    obtain ⟨ls, hls, hiv⟩ := hiv
    obtain ⟨a, b, c⟩ := hall ls hls
    have := seededBlock_spec n minLen ls.1 ls.2 h1 a (Nat.le_trans b (Nat.min_le_right _ _)) c iv hiv
    exact ⟨this.1, this.2.1, Nat.le_trans this.2.2 (Nat.add_le_add_left b _)⟩

/-! ### per-interval argmax -/
variable {α : Type} [LinearOrder α]

/-- the splits `amoc` scans, `lo = s + m ≤ t` with `t + m ≤ e`, counted as it counts them: there is
    none iff `e < s + 2 m`, and otherwise the last one is `lo + (count - 1)` -/
theorem amoc_count (s e m : Nat) :
    (e - m + 1 - (s + m) = 0 ↔ e < s + 2 * m) ∧
      (e - m + 1 - (s + m) ≠ 0 → s + m + (e - m + 1 - (s + m) - 1) + m = e) := by
  omega

/-- **C07, per-interval maximisation**: `amoc` returns the maximum of the change score over the
    splits leaving `m` samples on both sides, together with a split attaining it; it fails exactly
    when there is no such split. -/
theorem amoc_spec (cs : Nat → Nat → Nat → α) (m : Nat) (iv : Nat × Nat) :
    (amoc cs m iv = none ↔ iv.2 < iv.1 + 2 * m) ∧
    ∀ k v, amoc cs m iv = some (k, v) →
      iv.1 + m ≤ k ∧ k + m ≤ iv.2 ∧ v = cs iv.1 k iv.2 ∧
      ∀ t, iv.1 + m ≤ t → t + m ≤ iv.2 → cs iv.1 t iv.2 ≤ v := by
  obtain ⟨hzero, hlast⟩ := amoc_count iv.1 iv.2 m
  simp only [amoc]
  split
  · rename_i h
    exact ⟨iff_of_true rfl (hzero.1 h), fun k v hkv => by cases hkv⟩
  · rename_i h
    refine ⟨iff_of_false (fun hn => by cases hn) (fun hlt => h (hzero.2 hlt)), fun k v hkv => ?_⟩
    obtain ⟨rfl, rfl⟩ := Prod.mk.inj (Option.some.inj hkv)
    have hm := argmaxRange_mem (fun k => cs iv.1 k iv.2) (iv.1 + m) (iv.2 - m + 1 - (iv.1 + m) - 1)
    exact ⟨hm.1, (Nat.add_le_add_right hm.2 m).trans (hlast h).le, rfl,
      fun t h1 h2 => argmaxRange_ge (fun k => cs iv.1 k iv.2) (iv.1 + m) _ t h1
        (Nat.le_of_add_le_add_right (h2.trans (hlast h).ge))⟩

theorem killCpt_eq_true {trip : List (Nat × Nat × Nat)} {i j : Nat} :
    killCpt trip i j = true ↔ (trip.getD j (0, 0, 0)).1 ≤ (trip.getD i (0, 0, 0)).2.2 ∧
      (trip.getD i (0, 0, 0)).2.2 < (trip.getD j (0, 0, 0)).2.1 := by
  simp only [killCpt, decide_eq_true_eq]
  rfl

theorem mapOpt_spec {β γ : Type} (f : β → Option γ) : ∀ (l : List β) (rs : List γ),
    mapOpt f l = some rs → rs.length = l.length ∧
      ∀ (i : Nat) (b : β), l[i]? = some b → ∃ r, rs[i]? = some r ∧ f b = some r := by
  intro l
  induction l with
  | nil =>
    intro rs h
    cases h
    exact ⟨rfl, nofun⟩
  | cons b l ih =>
    intro rs h
    simp only [mapOpt] at h
    split at h
    · rename_i c cs hb hl
      cases h
      obtain ⟨ih1, ih2⟩ := ih cs hl
      refine ⟨congrArg (· + 1) ih1, fun i b' hi => ?_⟩
      cases i with
      | zero =>
        cases hi
        exact ⟨c, rfl, hb⟩
      | succ i => exact ih2 i b' hi
    · cases h

theorem mapOpt_congr {β γ : Type} (f g : β → Option γ) : ∀ (l : List β),
    (∀ b ∈ l, f b = g b) → mapOpt f l = mapOpt g l := by
  intro l h
  induction l with
  | nil => rfl
  | cons b l ih =>
    simp only [mapOpt, h b List.mem_cons_self, ih (fun x hx => h x (List.mem_cons_of_mem b hx))]

end Skc
