import Skc.Lemmas.CapaInv
import Skc.Lemmas.Select
import Mathlib.Algebra.Order.BigOperators.Group.List
import Mathlib.Tactic.Abel

/-! Consequences of the CAPA invariant: upper bound over every admissible anomaly set,
    monotone scores, correctness of `get_anomalies`. -/
namespace Skc
set_option linter.unusedSectionVars false

theorem ValidAnoms.lo_anti {m M lo lo' hi : Nat} {l : List (Nat × Nat)}
    (h : ValidAnoms m M lo l hi) (hl : lo' ≤ lo) : ValidAnoms m M lo' l hi := by
  cases l with
  | nil => exact le_trans hl h
  | cons a t => exact ⟨le_trans hl h.1, h.2⟩

/-- an anomaly, point or collective, ends after it starts -/
theorem anom_le {m M : Nat} {a : Nat × Nat} (h : a.2 = a.1 + 1 ∨ AdmC m M a.1 a.2) : a.1 ≤ a.2 := by
  rcases h with g | g
  · exact g ▸ Nat.le_succ a.1
  · exact le_trans (Nat.le_add_right _ _) g.1

theorem ValidAnoms.lo_le_hi {m M lo hi : Nat} {l : List (Nat × Nat)}
    (h : ValidAnoms m M lo l hi) : lo ≤ hi := by
  induction l generalizing lo with
  | nil => exact h
  | cons a t ih => exact le_trans h.1 (le_trans (anom_le h.2.1) (ih h.2.2))

/-- what `ValidAnoms` says member by member: sorted and disjoint; every member lies inside `[lo, hi]`
    and is a point or an admissible collective interval -/
theorem ValidAnoms.members {m M lo hi : Nat} {l : List (Nat × Nat)} (h : ValidAnoms m M lo l hi) :
    l.Pairwise (fun a b => a.2 ≤ b.1) ∧
      ∀ a ∈ l, lo ≤ a.1 ∧ a.2 ≤ hi ∧ (a.2 = a.1 + 1 ∨ (a.1 + m ≤ a.2 ∧ a.2 ≤ a.1 + M)) := by
  induction l generalizing lo with
  | nil => simp
  | cons a rest ih =>
    obtain ⟨h1, h2, h3⟩ := h
    obtain ⟨ih1, ih2⟩ := ih h3
    exact ⟨List.pairwise_cons.2 ⟨fun b hb => (ih2 b hb).1, ih1⟩, List.forall_mem_cons.2
      ⟨⟨h1, h3.lo_le_hi, h2⟩, fun x hx => (ih2 x hx).imp_left fun g => h1.trans ((anom_le h2).trans g)⟩⟩

theorem getAnoms_none {astart : Nat → Option Nat} {fuel i : Nat} {acc : List (Nat × Nat)}
    (h : astart i = none) : getAnoms astart (fuel + 1) (i + 1) acc = getAnoms astart fuel i acc := by
  simp [getAnoms, h]

theorem getAnoms_some {astart : Nat → Option Nat} {fuel i s : Nat} {acc : List (Nat × Nat)}
    (h : astart i = some s) (hs : s ≤ i) :
    getAnoms astart (fuel + 1) (i + 1) acc = getAnoms astart fuel s ((s, i + 1) :: acc) := by
  rcases Nat.lt_or_eq_of_le hs with hs | rfl <;> simp [getAnoms, h, hs]

variable {α : Type} [AddCommGroup α] [LinearOrder α] [IsOrderedAddMonoid α]

/-- the one bridge to `List.sum`: appending, comparing and rewriting totals member by member are then
    library facts -/
theorem anomVal_eq_sum (PS : Nat → Nat → α) (PP : Nat → α) (l : List (Nat × Nat)) :
    anomVal PS PP l = (l.map (anomVal1 PS PP)).sum := by
  induction l with
  | nil => rfl
  | cons a t ih => simp [anomVal, ih]

theorem soundPickMax_argmaxL : SoundPickMax (α := α) argmaxL := ⟨pickMem_argmaxL, argmaxL_ge⟩
theorem soundPickMax_argmaxLast : SoundPickMax (α := α) argmaxLast := ⟨argmaxLast_mem, argmaxLast_ge⟩
theorem soundPruneC_lt : SoundPruneC (α := α) prLt := by
  intro x v h; simp only [prLt, decide_eq_true_eq] at h; exact le_of_lt h
/-- non-strict pruning and no pruning are sound as well -/
theorem soundPruneC_le : SoundPruneC (α := α) (fun x v => decide (x ≤ v)) := by
  intro x v h; simpa using h
theorem soundPruneC_never : SoundPruneC (α := α) (fun _ _ => false) := by
  intro x v h; cases h

theorem cinv_all (PS : Nat → Nat → α) (PP : Nat → α) (K : α) (m M delay n : Nat)
    (hm : 1 ≤ m) (hmM : m ≤ M) (hd : m ≤ delay + 1)
    (H : ∀ s e0 T, s + m ≤ e0 → e0 + m ≤ T → T ≤ s + M → T ≤ n → PS s T ≤ PS s e0 + PS e0 T + K) :
    ∀ t, t ≤ n → CInv PS PP K m M delay t (capaIter PS PP K m M delay t) :=
  cinv_allG argmaxL prLt soundPickMax_argmaxL soundPruneC_lt PS PP K m M delay n hm hmM hd H

section inv
variable {PS : Nat → Nat → α} {PP : Nat → α} {K : α} {m M delay t : Nat} {st : CapaSt α}

theorem CInv.opt_mono (inv : CInv PS PP K m M delay t st) {a b : Nat} (hab : a ≤ b) (hb : b ≤ t) :
    st.opt a ≤ st.opt b := by
  induction b with
  | zero => rw [Nat.le_zero.1 hab]
  | succ b ih =>
    rcases Nat.le_succ_iff.1 hab with h | rfl
    · exact le_trans (ih h (Nat.le_of_succ_le hb)) (inv.mono b hb)
    · exact le_refl _

/-- point and collective anomalies alike: ending an anomaly `a` gains at most `opt a.2 - opt a.1`
    (`2 ≤ m` so that a collective anomaly never has length 1, which `anomVal1` reads as a point) -/
theorem CInv.anomVal1_le (inv : CInv PS PP K m M delay t st) (hm : 2 ≤ m) (a : Nat × Nat)
    (ha : a.2 = a.1 + 1 ∨ AdmC m M a.1 a.2) (hat : a.2 ≤ t) :
    st.opt a.1 + anomVal1 PS PP a ≤ st.opt a.2 := by
  unfold anomVal1
  rcases ha with g | g
  · rw [if_pos g, g]; exact inv.bpoint a.1 (Nat.lt_of_succ_le (g.symm.trans_le hat))
  · rw [if_neg (by have := g.1; omega)]; exact inv.bcoll a.2 hat a.1 g

/-- no admissible anomaly set inside `[lo,hi]` gains more than `opt hi - opt lo` -/
theorem CInv.anomVal_le (inv : CInv PS PP K m M delay t st) (hm : 2 ≤ m) :
    ∀ l lo hi, hi ≤ t → ValidAnoms m M lo l hi → st.opt lo + anomVal PS PP l ≤ st.opt hi := by
  intro l
  induction l with
  | nil => exact fun lo hi hhi hv => (add_zero (st.opt lo)).trans_le (inv.opt_mono hv hhi)
  | cons a rest ih =>
    intro lo hi hhi ⟨h1, h2, h3⟩
    have ha2 : a.2 ≤ t := le_trans h3.lo_le_hi hhi
    have hlo : st.opt lo ≤ st.opt a.1 := inv.opt_mono h1 (le_trans (anom_le h2) ha2)
    -- `opt lo + (v a + V rest) ≤ opt a.1 + v a + V rest ≤ opt a.2 + V rest ≤ opt hi`
    exact (add_assoc _ _ _).symm.trans_le <| (add_le_add_left
      ((add_le_add_left hlo _).trans (inv.anomVal1_le hm a h2 ha2)) _).trans (ih a.2 hi hhi h3)

/-- the two shapes of a back-tracking step: nothing ends at `e`, or the anomaly `[s, e + 1)` does (a point
    when `s = e`); a recorded anomaly saves strictly, because "no anomaly" wins ties -/
theorem CInv.last (inv : CInv PS PP K m M delay t st) (hm : 2 ≤ m) (e : Nat) (he : e < t) :
    (st.astart e = none ∧ st.opt (e + 1) = st.opt e) ∨
    ∃ s, st.astart e = some s ∧ s ≤ e ∧ (e + 1 = s + 1 ∨ AdmC m M s (e + 1)) ∧
      st.opt (e + 1) = st.opt s + anomVal1 PS PP (s, e + 1) ∧ 0 < anomVal1 PS PP (s, e + 1) := by
  have hpos : ∀ s v, s ≤ e → st.astart e ≠ none → st.opt (e + 1) = st.opt s + v → 0 < v :=
    fun s v hs hne hv =>
      pos_of_lt_add_right (lt_of_le_of_lt (inv.opt_mono hs he.le) ((inv.strict e he hne).trans_eq hv))
  rcases inv.beq e he with h | ⟨h1, h2⟩ | ⟨s, h1, h2, h3⟩
  · exact Or.inl h
  · have hv : st.opt (e + 1) = st.opt e + anomVal1 PS PP (e, e + 1) := by
      rw [anomVal1, if_pos rfl]; exact h2
    exact Or.inr ⟨e, h1, le_refl e, Or.inl rfl, hv, hpos e _ (le_refl e) (h1 ▸ Option.some_ne_none e) hv⟩
  · have hs : s < e := by have := h2.1; omega
    have hv : st.opt (e + 1) = st.opt s + anomVal1 PS PP (s, e + 1) := by
      rw [anomVal1, if_neg fun h => hs.ne' (Nat.succ.inj h)]; exact h3
    exact Or.inr ⟨s, h1, hs.le, Or.inr h2, hv, hpos s _ hs.le (h1 ▸ Option.some_ne_none s) hv⟩

/-- back-tracking from `e` with the anomalies `acc` found to the right of `e` already: the result is
    admissible, worth `opt e` more than `acc`, and every member saves strictly if those of `acc` do -/
theorem CInv.getAnoms_spec (inv : CInv PS PP K m M delay t st) (hm : 2 ≤ m) :
    ∀ e, e ≤ t → ∀ fuel acc hi, e < fuel →
      ValidAnoms m M e acc hi → (∀ a ∈ acc, 0 < anomVal1 PS PP a) →
      ValidAnoms m M 0 (getAnoms st.astart fuel e acc) hi ∧
      anomVal PS PP (getAnoms st.astart fuel e acc) = st.opt e + anomVal PS PP acc ∧
      ∀ a ∈ getAnoms st.astart fuel e acc, 0 < anomVal1 PS PP a := by
  intro e
  induction e using Nat.strong_induction_on with
  | _ e ih =>
    intro he fuel acc hi hfuel hv hp
    obtain ⟨fuel, rfl⟩ := Nat.exists_eq_add_one_of_ne_zero (Nat.ne_zero_of_lt hfuel)
    cases e with
    | zero => exact ⟨hv, by rw [inv.opt0, zero_add]; rfl, hp⟩
    | succ i =>
      have hit : i < t := he
      have hf : i < fuel := Nat.lt_of_succ_lt_succ hfuel
      rcases inv.last hm i hit with ⟨h1, h2⟩ | ⟨s, h1, hsi, hshape, h2, hpos⟩
      · rw [getAnoms_none h1, h2]
        exact ih i (Nat.lt_succ_self i) hit.le fuel acc hi hf (hv.lo_anti (Nat.le_succ i)) hp
      · rw [getAnoms_some h1 hsi, h2, add_assoc]
        exact ih s (Nat.lt_succ_of_le hsi) (hsi.trans hit.le) fuel _ hi (lt_of_le_of_lt hsi hf)
          ⟨le_rfl, hshape, hv⟩ (List.forall_mem_cons.2 ⟨hpos, hp⟩)

end inv

/-- **CAPA, the dynamic programme and its back-tracking.**  After `n` iterations under a sound policy
    the scores start at 0, are non-decreasing and dominate every admissible anomaly set of their prefix,
    and back-tracking from any `e ≤ n` returns an admissible set on `[0, e]` that attains `opt e` and
    whose members all save strictly.  (`PP` is explicit: no hypothesis mentions it.) -/
theorem capaG_backtrack {pick : (Nat → α) → List Nat → Nat} {pr : α → α → Bool}
    (hpick : SoundPickMax pick) (hpr : SoundPruneC pr) (PP : Nat → α) {PS : Nat → Nat → α} {K : α}
    {m M delay n : Nat} (hm : 2 ≤ m) (hmM : m ≤ M) (hd : m ≤ delay + 1) (H : PruneIneq PS K m M n) :
    let st := capaIterG pick pr PS PP K m M delay n
    st.opt 0 = 0 ∧ (∀ a b, a ≤ b → b ≤ n → st.opt a ≤ st.opt b) ∧
    (∀ l hi, hi ≤ n → ValidAnoms m M 0 l hi → anomVal PS PP l ≤ st.opt hi) ∧
    ∀ e, e ≤ n →
      let l := getAnoms st.astart (e + 1) e []
      ValidAnoms m M 0 l e ∧ anomVal PS PP l = st.opt e ∧ ∀ a ∈ l, 0 < anomVal1 PS PP a := by
  intro st
  have inv := cinv_allG pick pr hpick hpr PS PP K m M delay n (le_trans (Nat.le_succ 1) hm) hmM hd H n
    (le_refl _)
  refine ⟨inv.opt0, fun a b => inv.opt_mono, fun l hi hhi hv => ?_, fun e he => ?_⟩
  · have := inv.anomVal_le hm l 0 hi hhi hv
    rwa [inv.opt0, zero_add] at this
  · obtain ⟨h1, h2, h3⟩ := inv.getAnoms_spec hm e he (e + 1) [] e (Nat.lt_succ_self e) (le_refl e)
      fun _ h => absurd h List.not_mem_nil
    exact ⟨h1, h2.trans (add_zero _), h3⟩

/-- **Two tables of savings.**  Let CAPA run on `(PS, PP)` and let `(PSs, PPs)` be a second table that the
    first may over-estimate, but only where it is not positive.  Reported anomalies save strictly, so on
    them the tables agree: the reported set attains `opt e` in the second table too, and `opt e` still
    dominates every admissible set valued there.  Only admissible intervals inside `[0, n]` are compared. -/
theorem capaG_backtrack_spec {pick : (Nat → α) → List Nat → Nat} {pr : α → α → Bool}
    (hpick : SoundPickMax pick) (hpr : SoundPruneC pr) {PS : Nat → Nat → α} {PP : Nat → α} {K : α}
    {m M delay n : Nat} (hm : 2 ≤ m) (hmM : m ≤ M) (hd : m ≤ delay + 1) (H : PruneIneq PS K m M n)
    {PSs : Nat → Nat → α} {PPs : Nat → α}
    (hS : ∀ s e, AdmC m M s e → e ≤ n → PSs s e ≤ PS s e ∧ (0 < PS s e → PSs s e = PS s e))
    (hP : ∀ t, t < n → PPs t ≤ PP t ∧ (0 < PP t → PPs t = PP t)) (e : Nat) (he : e ≤ n) :
    let st := capaIterG pick pr PS PP K m M delay n
    let l := getAnoms st.astart (e + 1) e []
    ValidAnoms m M 0 l e ∧ anomVal PSs PPs l = st.opt e ∧
      ∀ l', ValidAnoms m M 0 l' e → anomVal PSs PPs l' ≤ st.opt e := by
  intro st l
  obtain ⟨_, _, hub, hbt⟩ := capaG_backtrack hpick hpr PP hm hmM hd H
  obtain ⟨hvalid, hval, hpos⟩ := hbt e he
  have hmem : ∀ l', ValidAnoms m M 0 l' e → ∀ a ∈ l',
      anomVal1 PSs PPs a ≤ anomVal1 PS PP a ∧
        (0 < anomVal1 PS PP a → anomVal1 PSs PPs a = anomVal1 PS PP a) := by
    intro l' hl' a ha
    obtain ⟨_, hae, hshape⟩ := hl'.members.2 a ha
    unfold anomVal1
    by_cases hpt : a.2 = a.1 + 1
    · rw [if_pos hpt, if_pos hpt]
      exact hP a.1 (Nat.lt_of_succ_le (le_trans (le_of_eq hpt.symm) (hae.trans he)))
    · rw [if_neg hpt, if_neg hpt]
      exact hS a.1 a.2 (hshape.resolve_left hpt) (hae.trans he)
  refine ⟨hvalid, ?_, fun l' hl' => ?_⟩
  · rw [← hval, anomVal_eq_sum, anomVal_eq_sum]
    exact congrArg _ (List.map_congr_left fun a ha => (hmem l hvalid a ha).2 (hpos a ha))
  · refine le_trans ?_ (hub l' e he hl')
    rw [anomVal_eq_sum, anomVal_eq_sum]
    exact List.sum_le_sum fun a ha => (hmem l' hl' a ha).1

end Skc
