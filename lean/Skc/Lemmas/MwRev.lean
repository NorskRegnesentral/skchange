import Skc.Lemmas.Where
import Skc.Lemmas.Select
import Skc.Model.Det
import Mathlib.Data.List.Sort

/-! Moving window: changepoints as peaks of runs, stated on the scores, and their behaviour under
    time reversal `t ↦ n − t` (C08). -/
namespace Skc

/-- the mirror `t ↦ n - t` maps the open interval `(L', R')` onto `(L, R)` when `L' + R = n = L + R'`, that is
    when each end of one is the mirror image of the opposite end of the other -/
theorem mirror_Ioo {n L R L' R' i : Nat} (hL' : L' + R = n) (hL : L + R' = n)
    (h1 : L' < i) (h2 : i < R') : ∃ u, u + i = n ∧ L < u ∧ u < R := by
  obtain ⟨u, rfl⟩ := Nat.exists_eq_add_of_lt h2
  exact ⟨L + u + 1, by omega⟩

theorem mirror_length {n L R L' R' d : Nat} (hL' : L' + R = n) (hL : L + R' = n)
    (hLR : L + 1 ≤ R) (h : d ≤ R - (L + 1)) : d ≤ R' - (L' + 1) := by
  have := Nat.add_le_of_le_sub hLR h
  exact Nat.le_sub_of_add_le (by omega)

/-- the indicator the code passes to `where`: `scores > threshold` at every position -/
def aboveInd {α : Type} [LT α] [DecidableLT α] (scores : Nat → α) (n : Nat) (thr : α) : List Bool :=
  (List.range n).map (fun t => decide (thr < scores t))

section
variable {α : Type} [LT α] [DecidableLT α] (scores : Nat → α) (n : Nat) (thr : α)

theorem aboveInd_length : (aboveInd scores n thr).length = n := by
  simp [aboveInd]

theorem aboveInd_eq_true {i : Nat} :
    (aboveInd scores n thr)[i]? = some true ↔ i < n ∧ thr < scores i := by
  by_cases hi : i < n <;> simp [aboveInd, hi]

/-- the position `get_moving_window_changepoints` reports for the run `[a, b)` lies in it -/
theorem argmaxRange_run_mem {a b : Nat} (hab : a < b) :
    a ≤ argmaxRange scores (a + 1) (b - a - 1) a ∧ argmaxRange scores (a + 1) (b - a - 1) a < b := by
  have := argmaxRange_mem scores a (b - a - 1)
  omega

theorem mem_mwCpts {mdi c : Nat} : c ∈ mwCpts scores n thr mdi ↔
    ∃ a b, IsRun (aboveInd scores n thr) a b ∧ mdi ≤ b - a ∧
      argmaxRange scores (a + 1) (b - a - 1) a = c := by
  simp only [mwCpts, List.mem_map, List.mem_filter, decide_eq_true_eq, Prod.exists, whereRuns_spec,
    aboveInd, and_assoc]

end

variable {α : Type} [LinearOrder α]

/-- `c` is the position of the maximum score of a maximal above-threshold run of length `≥ mdi` -/
def IsPeak (scores : Nat → α) (n : Nat) (thr : α) (mdi c : Nat) : Prop :=
  ∃ a b, IsRun (aboveInd scores n thr) a b ∧ mdi ≤ b - a ∧ a ≤ c ∧ c < b ∧
    ∀ t, a ≤ t → t < b → scores t ≤ scores c

/-- all above-threshold scores are distinct (the property excludes ties: the peak of a run with
    equal maxima is reported at its first position, which time reversal does not preserve) -/
def DistinctAbove (scores : Nat → α) (n : Nat) (thr : α) : Prop :=
  ∀ t u, t < n → u < n → thr < scores t → thr < scores u → scores t = scores u → t = u

/-- the reported position carries the maximal score of the run -/
theorem argmaxRange_run_ge (scores : Nat → α) {a b t : Nat} (h1 : a ≤ t) (h2 : t < b) :
    scores t ≤ scores (argmaxRange scores (a + 1) (b - a - 1) a) :=
  argmaxRange_ge scores a _ t h1 (by omega)

theorem lt_of_mem_mwCpts {scores : Nat → α} {n : Nat} {thr : α} {mdi c : Nat}
    (hc : c ∈ mwCpts scores n thr mdi) : c < n := by
  obtain ⟨a, b, hR, -, rfl⟩ := (mem_mwCpts scores n thr).1 hc
  exact Nat.lt_of_lt_of_le (argmaxRange_run_mem scores hR.1).2 (aboveInd_length scores n thr ▸ hR.2.1)

theorem mem_mwCpts_isPeak {scores : Nat → α} {n : Nat} {thr : α} {mdi c : Nat}
    (hc : c ∈ mwCpts scores n thr mdi) : IsPeak scores n thr mdi c := by
  obtain ⟨a, b, hR, hlen, rfl⟩ := (mem_mwCpts scores n thr).1 hc
  obtain ⟨h1, h2⟩ := argmaxRange_run_mem scores hR.1
  exact ⟨a, b, hR, hlen, h1, h2, fun t => argmaxRange_run_ge scores⟩

theorem DistinctAbove.mem_of_isPeak {scores : Nat → α} {n : Nat} {thr : α} {mdi c : Nat}
    (hd : DistinctAbove scores n thr) (hc : IsPeak scores n thr mdi c) :
    c ∈ mwCpts scores n thr mdi := by
  obtain ⟨a, b, hR, hlen, hac, hcb, hmax⟩ := hc
  refine (mem_mwCpts scores n thr).2 ⟨a, b, hR, hlen, ?_⟩
  -- the reported position and `c` are both in the run and carry its maximum
  obtain ⟨hab, _, htrue, _⟩ := hR
  obtain ⟨h1, h2⟩ := argmaxRange_run_mem scores hab
  have hc' := (aboveInd_eq_true scores n thr).1 (htrue _ h1 h2)
  have hc := (aboveInd_eq_true scores n thr).1 (htrue c hac hcb)
  exact hd _ c hc'.1 hc.1 hc'.2 hc.2 (le_antisymm (hmax _ h1 h2) (argmaxRange_run_ge scores hac hcb))

/-- the reversed scores: `scores' t = scores (n − t)` on `1..n−1`; position 0 is below the
    threshold on both sides (its score is 0 for every bandwidth `≥ 1` and the threshold is `≥ 0`) -/
structure Reversed (scores scores' : Nat → α) (n : Nat) (thr : α) : Prop where
  rev : ∀ t, 1 ≤ t → t < n → scores' t = scores (n - t)
  zero : ¬ thr < scores 0
  zero' : ¬ thr < scores' 0

section
variable {scores scores' : Nat → α} {n : Nat} {thr : α}

/-- the defining equation with the mirror image named: `scores' t = scores u` for `t + u = n` -/
theorem Reversed.rev_add (h : Reversed scores scores' n thr) {t u : Nat} (htu : t + u = n)
    (ht : 1 ≤ t) (hu : 1 ≤ u) : scores' t = scores u := by
  subst htu
  rw [h.rev t ht (Nat.lt_add_of_pos_right hu), Nat.add_sub_cancel_left]

theorem Reversed.symm (h : Reversed scores scores' n thr) : Reversed scores' scores n thr :=
  ⟨fun _ ht1 ht2 => (h.rev_add (Nat.sub_add_cancel ht2.le) (Nat.sub_pos_of_lt ht2) ht1).symm, h.zero', h.zero⟩

/-- the indicator of the reversed series is the mirror image of the original one, at every position
    (at the two ends `0` and `n` neither side is above the threshold) -/
theorem Reversed.aboveInd_eq_true (h : Reversed scores scores' n thr) {t u : Nat} (htu : t + u = n) :
    (aboveInd scores' n thr)[t]? = some true ↔ (aboveInd scores n thr)[u]? = some true := by
  simp only [Skc.aboveInd_eq_true]
  rcases Nat.eq_zero_or_pos t with rfl | ht
  · simp [h.zero', ← htu]
  · rcases Nat.eq_zero_or_pos u with rfl | hu
    · simp [h.zero, ← htu]
    · rw [h.rev_add htu ht hu, ← htu]
      simp [ht, hu]

end

/-- a maximal run is the inside `(L, b)` of two positions that are not `true`; in the mirror image of the
    indicator (`t ↦ n - t`) the images `b'`, `L'` of these two positions enclose a maximal run `(L', b')` -/
theorem IsRun.mirror {ind ind' : List Bool} {n a b : Nat} (hlen : ind.length ≤ n) (hlen' : ind'.length ≤ n)
    (h : ∀ {t u}, t + u = n → (ind'[t]? = some true ↔ ind[u]? = some true)) (hR : IsRun ind' a b) :
    ∃ L L' b', a = L + 1 ∧ L' + b = n ∧ L + b' = n ∧ IsRun ind (L' + 1) b' := by
  have hbn : b ≤ n := hR.2.1.trans hlen'
  obtain ⟨⟨hab, htrue, hl⟩, hr⟩ := isRun_iff_leftBlock.1 hR
  -- position `0` mirrors position `n`, which is past the end
  obtain ⟨L, rfl⟩ := Nat.exists_eq_succ_of_ne_zero fun h0 : a = 0 => by
    subst h0
    have := (h (Nat.zero_add n)).1 (htrue 0 (Nat.le_refl _) hab)
    rw [List.getElem?_eq_none hlen] at this
    cases this
  obtain ⟨L', hL'⟩ : ∃ L', L' + b = n := ⟨_, Nat.sub_add_cancel hbn⟩
  obtain ⟨b', hL⟩ : ∃ b', L + b' = n := ⟨_, Nat.add_sub_of_le ((Nat.le_succ L).trans (hab.le.trans hbn))⟩
  refine ⟨L, L', b', rfl, hL', hL, isRun_iff_leftBlock.2 ⟨⟨by omega, fun i h1 h2 => ?_, Or.inr ?_⟩, ?_⟩⟩
  · obtain ⟨u, hu, g1, g2⟩ := mirror_Ioo hL' hL h1 h2
    exact (h hu).1 (htrue u g1 g2)
  · exact fun hh => hr ((h (Nat.add_comm b L' ▸ hL')).2 hh)
  · exact fun hh => hl.resolve_left (Nat.succ_ne_zero L) ((h hL).2 hh)

section
variable {scores scores' : Nat → α} {n : Nat} {thr : α}

theorem Reversed.isPeak (h : Reversed scores scores' n thr) {mdi c : Nat}
    (hc : IsPeak scores' n thr mdi c) : 1 ≤ c ∧ c < n ∧ IsPeak scores n thr mdi (n - c) := by
  obtain ⟨a, b, hR, hlen, hac, hcb, hmax⟩ := hc
  obtain ⟨L, L', b', rfl, hL', hL, hR'⟩ :=
    hR.mirror (aboveInd_length scores n thr).le (aboveInd_length scores' n thr).le h.aboveInd_eq_true
  have hc1 : 1 ≤ c := Nat.zero_lt_of_lt hac
  -- the mirror image `c'` of `c` lies in the mirrored run, whose positions are mirror images
  obtain ⟨c', hc', g1, g2⟩ := mirror_Ioo hL hL' hac hcb
  rw [Nat.sub_eq_of_eq_add hc'.symm]
  refine ⟨hc1, hc' ▸ Nat.lt_add_of_pos_left (Nat.zero_lt_of_lt g1), _, _, hR',
    mirror_length hL' hL hR.1.le hlen, g1, g2, fun t ht1 ht2 => ?_⟩
  obtain ⟨u, hu, k1, k2⟩ := mirror_Ioo hL' hL ht1 ht2
  have := hmax u k1 k2
  rwa [h.rev_add hu (Nat.zero_lt_of_lt k1) (Nat.zero_lt_of_lt ht1),
    h.rev_add (Nat.add_comm c' c ▸ hc') hc1 (Nat.zero_lt_of_lt g1)] at this

theorem Reversed.distinctAbove (h : Reversed scores scores' n thr) (hd : DistinctAbove scores n thr) :
    DistinctAbove scores' n thr := by
  intro t u ht hu hat hau heq
  have ht1 : 1 ≤ t := Nat.pos_of_ne_zero (fun h0 => h.zero' (h0 ▸ hat))
  have hu1 : 1 ≤ u := Nat.pos_of_ne_zero (fun h0 => h.zero' (h0 ▸ hau))
  rw [h.rev t ht1 ht] at hat heq
  rw [h.rev u hu1 hu] at hau heq
  have := hd (n - t) (n - u) (Nat.sub_lt (Nat.zero_lt_of_lt ht) ht1) (Nat.sub_lt (Nat.zero_lt_of_lt hu) hu1) hat hau heq
  omega

end
end Skc
