import Skc.Model.Greedy
import Mathlib.Data.List.Basic
import Mathlib.Order.Basic

/-! `where` returns exactly the maximal runs of `true`, in scan order (C08).  The indicator is fixed and the
    scan is followed by position (`ind.drop i` is what remains to be read), so membership and sortedness
    come out of one induction. -/
namespace Skc

/-- `[s,e)` is a maximal run of `true` in `ind` -/
def IsRun (ind : List Bool) (s e : Nat) : Prop :=
  s < e ∧ e ≤ ind.length ∧ (∀ i, s ≤ i → i < e → ind[i]? = some true) ∧
    (s = 0 ∨ ind[s - 1]? = some false) ∧ (e = ind.length ∨ ind[e]? = some false)

/-- `[s, i)` is a non-empty block of `true` that cannot be extended to the left -/
def LeftBlock (ind : List Bool) (s i : Nat) : Prop :=
  s < i ∧ (∀ j, s ≤ j → j < i → ind[j]? = some true) ∧ (s = 0 ∨ ind[s - 1]? ≠ some true)

theorem LeftBlock.pred {ind : List Bool} {s i : Nat} (h : LeftBlock ind s i) : ind[i - 1]? = some true :=
  h.2.1 (i - 1) (Nat.le_sub_one_of_lt h.1) (Nat.sub_one_lt_of_lt h.1)

/-- the later of two starts would have a `true` just before it -/
theorem LeftBlock.unique {ind : List Bool} {a s i : Nat} (ha : LeftBlock ind a i) (hs : LeftBlock ind s i) :
    a = s := by
  have key : ∀ {a s}, LeftBlock ind a i → LeftBlock ind s i → ¬ a < s := fun ha hs hlt =>
    hs.2.2.resolve_left (Nat.ne_zero_of_lt hlt) (ha.2.1 _ (Nat.le_sub_one_of_lt hlt) (Nat.sub_lt_of_lt hs.1))
  exact Nat.le_antisymm (Nat.le_of_not_lt (key hs ha)) (Nat.le_of_not_lt (key ha hs))

/-- a maximal run is a left-maximal block that is not followed by `true` (past the end counts as such) -/
theorem isRun_iff_leftBlock {ind : List Bool} {a b : Nat} :
    IsRun ind a b ↔ LeftBlock ind a b ∧ ind[b]? ≠ some true := by
  have key : ∀ i, i < ind.length → (ind[i]? = some false ↔ ind[i]? ≠ some true) := fun i hi => by
    rw [List.getElem?_eq_getElem hi]; simp
  constructor
  · rintro ⟨h1, h2, h3, h4, h5⟩
    refine ⟨⟨h1, h3, h4.imp_right (fun h => by rw [h]; nofun)⟩, ?_⟩
    rcases h5 with rfl | h5
    · simp
    · rw [h5]; nofun
  · rintro ⟨h, h5⟩
    have hlen : b - 1 < ind.length := (List.getElem?_eq_some_iff.1 h.pred).1
    have hb : b ≤ ind.length := Nat.le_of_pred_lt hlen
    obtain ⟨h1, h3, h4⟩ := h
    exact ⟨h1, hb, h3, h4.imp_right (key _ (by omega)).2,
      (Nat.eq_or_lt_of_le hb).imp_right fun hb => (key b hb).2 h5⟩

/-- what the scan of `where` holds at position `i` of `ind`: the run open since `s` is a left-maximal block
    `[s, i)`; with none open, no such block ends at `i` -/
def WhereOK (ind : List Bool) (i : Nat) : Option Nat → Prop
  | none => i = 0 ∨ ind[i - 1]? ≠ some true
  | some s => LeftBlock ind s i

/-- a left-maximal block that ends at `i` is the run the scan holds open there -/
theorem WhereOK.eq_some {ind : List Bool} {i a : Nat} {o : Option Nat} (ho : WhereOK ind i o)
    (h : LeftBlock ind a i) : o = some a := by
  cases o with
  | none => exact absurd h.pred (ho.resolve_left (Nat.ne_zero_of_lt h.1))
  | some s => exact congrArg some (LeftBlock.unique ho h)

/-! One step of the scan, reading `x` at position `i` with state `o` (`x = none` past the end of the input): the
    run it closes, if any, and the state it goes on with. -/

def whereEmit (x : Option Bool) (i : Nat) (o : Option Nat) : List (Nat × Nat) :=
  if x = some true then [] else (o.map (·, i)).toList

def whereNext (v : Bool) (i : Nat) (o : Option Nat) : Option Nat :=
  if v then some (o.getD i) else none

theorem whereRunsAux_nil (i : Nat) (o : Option Nat) : whereRunsAux [] i o = whereEmit none i o := by
  cases o <;> rfl

theorem whereRunsAux_cons (v : Bool) (l : List Bool) (i : Nat) (o : Option Nat) :
    whereRunsAux (v :: l) i o = whereEmit (some v) i o ++ whereRunsAux l (i + 1) (whereNext v i o) := by
  cases v <;> cases o <;> rfl

theorem pairwise_whereEmit (R : Nat × Nat → Nat × Nat → Prop) (x : Option Bool) (i : Nat) (o : Option Nat) :
    (whereEmit x i o).Pairwise R := by
  unfold whereEmit
  split <;> cases o <;> simp

/-- the scan closes at `i` exactly the maximal runs that end at `i` -/
theorem WhereOK.mem_whereEmit {ind : List Bool} {i : Nat} {o : Option Nat} (ho : WhereOK ind i o) (a b : Nat) :
    (a, b) ∈ whereEmit ind[i]? i o ↔ IsRun ind a b ∧ i = b := by
  have hm : (a, b) ∈ whereEmit ind[i]? i o ↔ (o = some a ∧ ind[i]? ≠ some true) ∧ i = b := by
    unfold whereEmit
    split <;> cases o <;> simp [*, @eq_comm _ a, @eq_comm _ b]
  rw [hm, isRun_iff_leftBlock]
  constructor
  · rintro ⟨⟨rfl, h5⟩, rfl⟩
    exact ⟨⟨ho, h5⟩, rfl⟩
  · rintro ⟨⟨h, h5⟩, rfl⟩
    exact ⟨⟨ho.eq_some h, h5⟩, rfl⟩

theorem WhereOK.next {ind : List Bool} {i : Nat} {o : Option Nat} {v : Bool} (hv : ind[i]? = some v)
    (ho : WhereOK ind i o) : WhereOK ind (i + 1) (whereNext v i o) := by
  match v, o with
  | false, _ => exact Or.inr (by rw [Nat.add_sub_cancel, hv]; simp)
  | true, none =>
    exact ⟨Nat.lt_succ_self i, fun j h1 h2 => Nat.le_antisymm (Nat.le_of_lt_succ h2) h1 ▸ hv, ho⟩
  | true, some s =>
    exact ⟨Nat.lt_succ_of_lt ho.1, fun j h1 h2 =>
      (Nat.lt_succ_iff_lt_or_eq.1 h2).elim (ho.2.1 j h1) (fun h => h ▸ hv), ho.2.2⟩

/-- the scan from position `i` yields the maximal runs that end at `i` or later: those ending at `i`
    (`WhereOK.mem_whereEmit`) and, by induction, those ending after it -/
theorem whereRunsAux_spec (ind l : List Bool) (i : Nat) (o : Option Nat)
    (hl : ind.drop i = l) (ho : WhereOK ind i o) :
    (∀ a b, (a, b) ∈ whereRunsAux l i o ↔ IsRun ind a b ∧ i ≤ b) ∧
      (whereRunsAux l i o).Pairwise (fun r r' => r.2 ≤ r'.1) := by
  induction l generalizing i o with
  | nil =>
    -- no run ends after the end of the input
    have hlen : ind.length ≤ i := List.drop_eq_nil_iff.1 hl
    have hm := ho.mem_whereEmit
    rw [List.getElem?_eq_none hlen] at hm
    rw [whereRunsAux_nil]
    exact ⟨fun a b => (hm a b).trans (and_congr_right fun h =>
      ⟨Nat.le_of_eq, fun hb => Nat.le_antisymm hb (Nat.le_trans h.2.1 hlen)⟩), pairwise_whereEmit _ _ _ _⟩
  | cons v l ih =>
    have hv : ind[i]? = some v := by rw [← List.head?_drop, hl]; rfl
    have hl' : ind.drop (i + 1) = l := by rw [← List.tail_drop, hl]; rfl
    obtain ⟨ih1, ih2⟩ := ih (i + 1) (whereNext v i o) hl' (ho.next hv)
    have hm := ho.mem_whereEmit
    rw [hv] at hm
    rw [whereRunsAux_cons]
    refine ⟨fun a b => ?_, List.pairwise_append.2 ⟨pairwise_whereEmit _ _ _ _, ih2, fun r hr r' hr' => ?_⟩⟩
    · rw [List.mem_append, hm, ih1, ← and_or_left, ← Nat.lt_iff_add_one_le, or_comm, ← Nat.le_iff_lt_or_eq]
    · -- a later run containing position `i` would make it `true`
      obtain ⟨hR, rfl⟩ := (hm _ _).1 hr
      obtain ⟨hR', hb⟩ := (ih1 _ _).1 hr'
      exact Nat.le_of_not_lt fun hlt => (isRun_iff_leftBlock.1 hR).2 (hR'.2.2.1 _ (Nat.le_of_lt hlt) hb)

/-- **`where` returns exactly the maximal runs of `True`** -/
theorem whereRuns_spec (ind : List Bool) (a b : Nat) : (a, b) ∈ whereRuns ind ↔ IsRun ind a b := by
  simpa [whereRuns] using (whereRunsAux_spec ind ind 0 none rfl (Or.inl rfl)).1 a b

/-- `where` returns its runs in increasing order, pairwise disjoint -/
theorem whereRuns_pairwise (ind : List Bool) :
    (whereRuns ind).Pairwise (fun r r' => r.2 ≤ r'.1) :=
  (whereRunsAux_spec ind ind 0 none rfl (Or.inl rfl)).2

end Skc
