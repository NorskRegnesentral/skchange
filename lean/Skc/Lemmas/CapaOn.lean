import Skc.Lemmas.PenH
import Skc.Lemmas.Congr
import Skc.Lemmas.Tables

/-! The per-column savings (squared error, Gaussian) of a multivariate series computed from the rows: what
    CAPA / MVCAPA are run on when a statement is composed down to the data. -/
namespace Skc
set_option linter.unusedSectionVars false

/-- per-column L2 savings (baseline mean 0) of the rows `[s, e)` of a series with `p` columns
    (`X j i` = row `i` of column `j`) -/
noncomputable def l2Savings (X : ℕ → ℕ → ℝ) (p s e : ℕ) : List ℝ :=
  (List.range p).map (fun j => CF.l2Saving (segSum (X j) s e) ((e : ℝ) - s))

theorem l2Savings_length (X : ℕ → ℕ → ℝ) (p s e : ℕ) : (l2Savings X p s e).length = p := by
  simp [l2Savings]

theorem l2Savings_nonneg (X : ℕ → ℕ → ℝ) (p s e : ℕ) : ∀ v ∈ l2Savings X p s e, 0 ≤ v := by
  intro v hv
  obtain ⟨j, _, rfl⟩ := List.mem_map.1 hv
  by_cases h : s < e
  · exact l2Saving_nonneg _ _ (len_pos h)
  · -- an empty interval sums to 0, and `0 ^ 2 / n = 0` whatever `n` is
    simp [CF.l2Saving, segSum, Finset.Ico_eq_empty_of_le (not_lt.1 h)]

theorem l2Savings_subAdd (X : ℕ → ℕ → ℝ) (p s e0 T : ℕ) (h1 : s < e0) (h2 : e0 < T) :
    SubAdd (l2Savings X p s T) (l2Savings X p s e0) (l2Savings X p e0 T) :=
  subAdd_map fun j _ => l2Saving_subadd (len_pos h1) (len_pos h2)
    (segSum_consecutive (X j) s e0 T h1.le h2.le) (sub_add_sub_cancel' _ _ _)

/-- univariate Gaussian cost with fixed mean and variance, from the rows (`gaussian_var_cost_fixed`) -/
noncomputable def gaussFixedTable (x : ℕ → ℝ) (μ v : ℝ) (s e : ℕ) : ℝ :=
  CF.gaussFixed (segSum x s e) (segSum (fun i => x i ^ 2) s e) ((e : ℝ) - s) μ v

theorem gaussFixedTable_add (x : ℕ → ℝ) (μ v : ℝ) (s t e : ℕ) (hst : s ≤ t) (hte : t ≤ e) :
    gaussFixedTable x μ v s t + gaussFixedTable x μ v t e = gaussFixedTable x μ v s e := by
  simp only [gaussFixedTable, CF.gaussFixed, CF.l2Fixed]
  rw [← segSum_consecutive x s t e hst hte, ← segSum_consecutive (fun i => x i ^ 2) s t e hst hte]
  ring

theorem gaussTable_le_fixed (x : ℕ → ℝ) (μ v : ℝ) (s e : ℕ) (h : s < e) (hv : 0 < v)
    (habove : varFloorConst ≤ segVar x s e) : gaussTable x s e ≤ gaussFixedTable x μ v s e :=
  gaussOptim_le_gaussFixed μ v (len_pos h) hv habove

/-- per-column Gaussian savings (`Saving(GaussianVarCost(param=(μ, v)))`: fixed − optimal) of the rows
    `[s, e)` of a series with `p` columns (`X j i` = row `i` of column `j`, baseline `(μ j, v j)`) -/
noncomputable def gaussSavings (X : ℕ → ℕ → ℝ) (μ v : ℕ → ℝ) (p s e : ℕ) : List ℝ :=
  (List.range p).map (fun j => gaussFixedTable (X j) (μ j) (v j) s e - gaussTable (X j) s e)

theorem gaussSavings_length (X : ℕ → ℕ → ℝ) (μ v : ℕ → ℝ) (p s e : ℕ) :
    (gaussSavings X μ v p s e).length = p := by
  simp [gaussSavings]

theorem gaussSavings_nonneg (X : ℕ → ℕ → ℝ) (μ v : ℕ → ℝ) (p s e : ℕ) (h : s < e)
    (hv : ∀ j, j < p → 0 < v j) (habove : ∀ j, j < p → varFloorConst ≤ segVar (X j) s e) :
    ∀ w ∈ gaussSavings X μ v p s e, 0 ≤ w := by
  intro w hw
  obtain ⟨j, hj, rfl⟩ := List.mem_map.1 hw
  have hjp : j < p := List.mem_range.1 hj
  exact sub_nonneg.2 (gaussTable_le_fixed (X j) (μ j) (v j) s e h (hv j hjp) (habove j hjp))

theorem subAdd_map_mem (f g h : ℕ → ℝ) : ∀ (l : List ℕ), (∀ j ∈ l, f j ≤ g j + h j) →
    SubAdd (l.map f) (l.map g) (l.map h) := fun _ => subAdd_map

/-- column by column the Gaussian saving of an interval is at most the sum of the savings of its two
    parts, provided the three empirical variances are at or above the floor (the fixed-parameter cost
    is additive, the optimal cost obeys the split inequality) -/
theorem gaussSavings_subAdd (X : ℕ → ℕ → ℝ) (μ v : ℕ → ℝ) (p m n s e0 T : ℕ) (hm : 1 ≤ m)
    (h1 : s + m ≤ e0) (h2 : e0 + m ≤ T) (hT : T ≤ n)
    (habove : ∀ j, j < p → ∀ a b, a + m ≤ b → b ≤ n → varFloorConst ≤ segVar (X j) a b) :
    SubAdd (gaussSavings X μ v p s T) (gaussSavings X μ v p s e0) (gaussSavings X μ v p e0 T) := by
  have hlt : ∀ {a b : ℕ}, a + m ≤ b → a < b := lt_of_add_le hm
  have hsT : s + m ≤ T := h1.trans ((Nat.le_add_right e0 m).trans h2)
  refine subAdd_map fun j hj => ?_
  have hj := habove j (List.mem_range.1 hj)
  exact saving_subadd (gaussFixedTable_add (X j) (μ j) (v j) s e0 T (hlt h1).le (hlt h2).le)
    (gaussTable_split_core (X j) s e0 T (hlt h1) (hlt h2) (hj s e0 h1 ((hlt h2).le.trans hT)) (hj e0 T h2 hT)
      (hj s T hsT hT))

end Skc
