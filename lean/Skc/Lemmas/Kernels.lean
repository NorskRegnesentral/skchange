import Skc.Spec.Kernels
import Mathlib.Algebra.BigOperators.Ring.Finset
import Mathlib.Tactic.Ring
import Mathlib.Tactic.FieldSimp
import Mathlib.Tactic.Linarith
import Mathlib.Tactic.Positivity

/-! Sums over the rows `[s, e)`; the closed forms as functions of the two sums and the length of a segment
    (C01: they equal the direct definitions; C06: identities and inequalities between them).  Independent of
    the source code.

    The inequalities are stated for a whole with sums `S`, `Q` and length `n` and two parts whose sums and
    lengths add up to them (`Sa + Sb = S`, …): a cost table instantiates the three equations with
    `segSum_consecutive` and `sub_add_sub_cancel'`, a statement about free sums with `rfl`. -/
open Finset
namespace Skc

/-! ### sums over a segment -/

theorem len_pos {s e : ℕ} (h : s < e) : (0 : ℝ) < (e : ℝ) - s := sub_pos.2 (Nat.cast_lt.2 h)

theorem psum_sub (x : ℕ → ℝ) (s e : ℕ) (h : s ≤ e) : psum x e - psum x s = segSum x s e :=
  (sum_Ico_eq_sub _ h).symm

theorem segSum_consecutive (x : ℕ → ℝ) (s t e : ℕ) (hst : s ≤ t) (hte : t ≤ e) :
    segSum x s t + segSum x t e = segSum x s e :=
  sum_Ico_consecutive x hst hte

theorem segSum_const (c : ℝ) (s e : ℕ) (h : s ≤ e) : segSum (fun _ => c) s e = ((e : ℝ) - s) * c := by
  rw [segSum, sum_const, Nat.card_Ico, nsmul_eq_mul, Nat.cast_sub h]

theorem segSum_add (x y : ℕ → ℝ) (s e : ℕ) :
    segSum (fun i => x i + y i) s e = segSum x s e + segSum y s e :=
  sum_add_distrib

theorem segSum_mul_left (a : ℝ) (x : ℕ → ℝ) (s e : ℕ) :
    segSum (fun i => a * x i) s e = a * segSum x s e :=
  (mul_sum _ _ _).symm

theorem segSum_shift (x : ℕ → ℝ) (c : ℝ) (s e : ℕ) (h : s ≤ e) :
    segSum (fun i => x i + c) s e = segSum x s e + ((e : ℝ) - s) * c := by
  rw [segSum_add, segSum_const c s e h]

theorem segSum_sq_shift (x : ℕ → ℝ) (c : ℝ) (s e : ℕ) (h : s ≤ e) :
    segSum (fun i => (x i + c) ^ 2) s e =
      segSum (fun i => x i ^ 2) s e + 2 * c * segSum x s e + ((e : ℝ) - s) * c ^ 2 := by
  simp only [add_sq, mul_right_comm _ _ c]
  rw [segSum_add, segSum_add, segSum_mul_left, segSum_const _ s e h]

theorem segSum_sq_scale (a : ℝ) (x : ℕ → ℝ) (s e : ℕ) :
    segSum (fun i => (a * x i) ^ 2) s e = a ^ 2 * segSum (fun i => x i ^ 2) s e := by
  simp only [mul_pow, segSum_mul_left]

/-! ### squared error -/

/-- bias–variance identity: fixed-mean cost = optimal cost + `n (x̄ − μ)²` -/
theorem l2Fixed_eq_optim_add (S1 S2 n μ : ℝ) (hn : n ≠ 0) :
    CF.l2Fixed S1 S2 n μ = CF.l2Optim S1 S2 n + n * (S1 / n - μ) ^ 2 := by
  simp only [CF.l2Fixed, CF.l2Optim]; field_simp; ring

theorem l2Optim_eq_fixed_mean (S1 S2 n : ℝ) (hn : n ≠ 0) :
    CF.l2Optim S1 S2 n = CF.l2Fixed S1 S2 n (S1 / n) := by
  rw [l2Fixed_eq_optim_add S1 S2 n _ hn, sub_self, zero_pow two_ne_zero, mul_zero, add_zero]

theorem l2Optim_le_fixed (S1 S2 n μ : ℝ) (hn : 0 < n) : CF.l2Optim S1 S2 n ≤ CF.l2Fixed S1 S2 n μ := by
  rw [l2Fixed_eq_optim_add S1 S2 n μ hn.ne']
  exact le_add_of_nonneg_right (mul_nonneg hn.le (sq_nonneg _))

/-- the (population) variance of a segment from its two sums and its length: what `CF.varFloor` floors, and
    what `segVar`, `pooledVar` are on the sums of the rows -/
noncomputable def empVar (S1 S2 n : ℝ) : ℝ := S2 / n - (S1 / n) ^ 2

theorem varFloor_eq_max_empVar (S1 S2 n : ℝ) : CF.varFloor S1 S2 n = max (empVar S1 S2 n) varFloorConst := rfl

theorem l2Optim_eq_mul_empVar (S1 S2 n : ℝ) (hn : n ≠ 0) : CF.l2Optim S1 S2 n = n * empVar S1 S2 n := by
  rw [CF.l2Optim, empVar, mul_sub, mul_div_cancel₀ _ hn, div_pow, sq n, ← div_div, mul_div_cancel₀ _ hn]

/-- `x ↦ x + c` on the sums: `S₁ ↦ S₁ + n c`, `S₂ ↦ S₂ + 2 c S₁ + n c²` -/
theorem empVar_shift (S1 S2 n c : ℝ) (hn : n ≠ 0) :
    empVar (S1 + n * c) (S2 + 2 * c * S1 + n * c ^ 2) n = empVar S1 S2 n := by
  simp only [empVar]; field_simp; ring

/-- `x ↦ a x` on the sums -/
theorem empVar_scale (S1 S2 n a : ℝ) : empVar (a * S1) (a ^ 2 * S2) n = a ^ 2 * empVar S1 S2 n := by
  simp only [empVar]; ring

theorem rss_eq_l2Fixed (x : ℕ → ℝ) (μ : ℝ) (s e : ℕ) (h : s ≤ e) :
    rss x μ s e = CF.l2Fixed (segSum x s e) (segSum (fun i => x i ^ 2) s e) ((e : ℝ) - s) μ := by
  have := segSum_sq_shift x (-μ) s e h
  simp only [← sub_eq_add_neg] at this
  rw [rss, ← segSum, this, CF.l2Fixed]
  ring

theorem rss_segMean_eq_l2Optim (x : ℕ → ℝ) (s e : ℕ) (h : s < e) :
    rss x (segMean x s e) s e = CF.l2Optim (segSum x s e) (segSum (fun i => x i ^ 2) s e) ((e : ℝ) - s) := by
  rw [rss_eq_l2Fixed x _ s e h.le, segMean, ← l2Optim_eq_fixed_mean _ _ _ (len_pos h).ne']

theorem rss_nonneg (x : ℕ → ℝ) (μ : ℝ) (s e : ℕ) : 0 ≤ rss x μ s e :=
  sum_nonneg (fun _ _ => sq_nonneg _)

theorem l2Saving_eq (S1 S2 n : ℝ) : CF.l2Saving S1 n = CF.l2Fixed S1 S2 n 0 - CF.l2Optim S1 S2 n := by
  simp only [CF.l2Saving, CF.l2Fixed, CF.l2Optim]; ring

theorem l2Saving_nonneg (S1 n : ℝ) (hn : 0 < n) : 0 ≤ CF.l2Saving S1 n :=
  div_nonneg (sq_nonneg _) hn.le

section split
variable {Sa Sb Qa Qb a b S Q n : ℝ}

theorem l2Optim_split_identity (ha : 0 < a) (hb : 0 < b) (hS : Sa + Sb = S) (hQ : Qa + Qb = Q) (hn : a + b = n) :
    CF.l2Optim S Q n - (CF.l2Optim Sa Qa a + CF.l2Optim Sb Qb b) = a * b / n * (Sa / a - Sb / b) ^ 2 := by
  subst hS hQ hn
  -- in the form `≠ 0`, which `field_simp` looks for (from `0 < a` it has to search)
  have hab := (add_pos ha hb).ne'
  have ha := ha.ne'
  have hb := hb.ne'
  -- the sums of squares cancel
  rw [CF.l2Optim, CF.l2Optim, CF.l2Optim, sub_add_sub_comm, sub_sub_sub_cancel_left]
  field_simp; ring

theorem l2Optim_split_le (ha : 0 < a) (hb : 0 < b) (hS : Sa + Sb = S) (hQ : Qa + Qb = Q) (hn : a + b = n) :
    CF.l2Optim Sa Qa a + CF.l2Optim Sb Qb b ≤ CF.l2Optim S Q n := by
  rw [← sub_nonneg, l2Optim_split_identity ha hb hS hQ hn]
  subst hn
  positivity

/-- the same inequality read on the savings `S² / n` (the sums of squares cancel) -/
theorem l2Saving_subadd (ha : 0 < a) (hb : 0 < b) (hS : Sa + Sb = S) (hn : a + b = n) :
    CF.l2Saving S n ≤ CF.l2Saving Sa a + CF.l2Saving Sb b := by
  have := l2Optim_split_le (Qa := 0) (Qb := 0) ha hb hS (add_zero 0) hn
  simp only [CF.l2Optim, zero_sub, ← neg_add, neg_le_neg_iff] at this
  exact this

end split

/-! ### CUSUM -/

theorem sqrt_cusum_weight {u v n : ℝ} (hu : 0 < u) : Real.sqrt (v / (n * u)) = Real.sqrt (u * v / n) / u := by
  have h : v / (n * u) = u * v / n / u ^ 2 := by rw [sq, div_div, mul_left_comm n, mul_div_mul_left _ _ hu.ne']
  rw [h, Real.sqrt_div' _ (sq_nonneg u), Real.sqrt_sq hu.le]

/-- the CUSUM score is the difference of the means before and after the split, scaled by `√(n_b n_a / n)` -/
theorem cusum_eq {Sb Sa nb na n : ℝ} (hb : 0 < nb) (ha : 0 < na) :
    CF.cusum Sb Sa nb na n = Real.sqrt (nb * na / n) * |Sb / nb - Sa / na| := by
  rw [← abs_of_nonneg (Real.sqrt_nonneg (nb * na / n)), ← abs_mul, CF.cusum,
    sqrt_cusum_weight hb, sqrt_cusum_weight ha, mul_comm na]
  congr 1; ring

theorem cusum_sq_eq_l2_change {Sa Sb Qa Qb a b S Q n : ℝ} (ha : 0 < a) (hb : 0 < b)
    (hS : Sa + Sb = S) (hQ : Qa + Qb = Q) (hn : a + b = n) :
    (CF.cusum Sb Sa b a n) ^ 2 = CF.l2Optim S Q n - (CF.l2Optim Sb Qb b + CF.l2Optim Sa Qa a) := by
  have hn0 : 0 < n := hn ▸ add_pos ha hb
  rw [cusum_eq hb ha, mul_pow, sq_abs, Real.sq_sqrt (by positivity), mul_comm b, sub_sq_comm,
    add_comm (CF.l2Optim Sb Qb b), l2Optim_split_identity ha hb hS hQ hn]

/-! ### univariate Gaussian cost

`CF.gaussOptim` floors the variance, and the inequalities hold only at or above the floor.  So each comes
twice: `gauss_optim_le_fixed`, `gauss_split_le` are about the expression `n log(2πσ) + n` with a free variance
`σ > 0` (the form in which C06 states them); `gaussOptim_le_gaussFixed`, `gaussOptim_split_le` are the same on the
closed forms `CF.gaussOptim` / `CF.gaussFixed` of the sums, with the floor hypotheses, and are what the cost
tables use.  (Everywhere else in this file a name `l2…`, `l2Optim…`, `l2Saving…`, `cusum…`, `gaussOptim…` speaks
of the closed form `CF.…` of that name.) -/

/-- Gaussian cost: optimal ≤ fixed, above the variance floor.  `σ2` = population variance of the
    segment, `Q` = sum of squares around the fixed mean (`n σ2 ≤ Q`). -/
theorem gauss_optim_le_fixed (n σ2 v Q : ℝ) (hn : 0 < n) (hσ : 0 < σ2) (hv : 0 < v)
    (hQ : n * σ2 ≤ Q) :
    n * Real.log (2 * Real.pi * σ2) + n ≤ n * Real.log (2 * Real.pi * v) + Q / v := by
  have hσ' := mul_pos Real.two_pi_pos hσ
  have hv' := mul_pos Real.two_pi_pos hv
  -- `log` lies below its tangent at `2πv`: `log(2πσ2) − log(2πv) ≤ σ2/v − 1`
  have h1 := mul_le_mul_of_nonneg_left (Real.log_le_sub_one_of_pos (div_pos hσ' hv')) hn.le
  rw [Real.log_div hσ'.ne' hv'.ne', mul_div_mul_left _ _ Real.two_pi_pos.ne'] at h1
  linear_combination h1 + div_le_div_of_nonneg_right hQ hv.le

/-- Gaussian cost: splitting never increases the optimal cost, above the floor.  With
    `a σ₁ + b σ₂ ≤ (a+b) σ` (pooled sum of squares exceeds the within-part sums): each part's optimal
    cost is at most its cost at the pooled variance `σ`, and those two add up to at most the right side. -/
theorem gauss_split_le {a b σ σ1 σ2 : ℝ} (ha : 0 < a) (hb : 0 < b) (h1 : 0 < σ1) (h2 : 0 < σ2)
    (hσ : a * σ1 + b * σ2 ≤ (a + b) * σ) :
    (a * Real.log (2 * Real.pi * σ1) + a) + (b * Real.log (2 * Real.pi * σ2) + b) ≤
      (a + b) * Real.log (2 * Real.pi * σ) + (a + b) := by
  have hσ0 : 0 < σ :=
    pos_of_mul_pos_right ((add_pos (mul_pos ha h1) (mul_pos hb h2)).trans_le hσ) (add_pos ha hb).le
  linear_combination gauss_optim_le_fixed a σ1 σ _ ha h1 hσ0 le_rfl +
    gauss_optim_le_fixed b σ2 σ _ hb h2 hσ0 le_rfl + (div_le_iff₀ hσ0).2 hσ

theorem varFloorConst_pos : 0 < varFloorConst := by unfold varFloorConst; norm_num

theorem gaussOptim_of_floor_le {S1 S2 n : ℝ} (h : varFloorConst ≤ empVar S1 S2 n) :
    CF.gaussOptim S1 S2 n = n * Real.log (2 * Real.pi * empVar S1 S2 n) + n := by
  rw [CF.gaussOptim, varFloor_eq_max_empVar, max_eq_left h]

theorem gaussOptim_le_gaussFixed {S1 S2 n : ℝ} (μ v : ℝ) (hn : 0 < n) (hv : 0 < v)
    (h : varFloorConst ≤ empVar S1 S2 n) : CF.gaussOptim S1 S2 n ≤ CF.gaussFixed S1 S2 n μ v := by
  rw [gaussOptim_of_floor_le h]
  refine gauss_optim_le_fixed n _ v _ hn (varFloorConst_pos.trans_le h) hv ?_
  rw [← l2Optim_eq_mul_empVar S1 S2 n hn.ne']
  exact l2Optim_le_fixed S1 S2 n μ hn

/-- the split inequality on the sums, for variances at or above the floor: the L2 split inequality says
    that the pooled variance dominates, `a σ̂²_a + b σ̂²_b ≤ n σ̂²` -/
theorem gaussOptim_split_le {Sa Sb Qa Qb a b S Q n : ℝ} (ha : 0 < a) (hb : 0 < b)
    (hS : Sa + Sb = S) (hQ : Qa + Qb = Q) (hn : a + b = n)
    (fa : varFloorConst ≤ empVar Sa Qa a) (fb : varFloorConst ≤ empVar Sb Qb b) (f : varFloorConst ≤ empVar S Q n) :
    CF.gaussOptim Sa Qa a + CF.gaussOptim Sb Qb b ≤ CF.gaussOptim S Q n := by
  rw [gaussOptim_of_floor_le fa, gaussOptim_of_floor_le fb, gaussOptim_of_floor_le f, ← hn]
  refine gauss_split_le ha hb (varFloorConst_pos.trans_le fa) (varFloorConst_pos.trans_le fb) ?_
  rw [← l2Optim_eq_mul_empVar _ _ a ha.ne', ← l2Optim_eq_mul_empVar _ _ b hb.ne', hn,
    ← l2Optim_eq_mul_empVar _ _ n (hn ▸ add_pos ha hb).ne']
  exact l2Optim_split_le ha hb hS hQ hn

theorem log_two_pi_scale {a w : ℝ} (ha : 0 < a) (hw : 0 < w) :
    Real.log (2 * Real.pi * (a ^ 2 * w)) = Real.log (a ^ 2) + Real.log (2 * Real.pi * w) := by
  rw [mul_left_comm, Real.log_mul (pow_pos ha 2).ne' (mul_pos Real.two_pi_pos hw).ne']

theorem gaussOptim_scale (S1 S2 n a : ℝ) (ha : 0 < a)
    (h1 : varFloorConst ≤ empVar S1 S2 n) (h2 : varFloorConst ≤ a ^ 2 * empVar S1 S2 n) :
    CF.gaussOptim (a * S1) (a ^ 2 * S2) n = CF.gaussOptim S1 S2 n + n * Real.log (a ^ 2) := by
  have e0 := empVar_scale S1 S2 n a
  rw [gaussOptim_of_floor_le h1, gaussOptim_of_floor_le (h2.trans e0.ge), e0,
    log_two_pi_scale ha (varFloorConst_pos.trans_le h1)]
  ring

end Skc
