import Skc.Model.Conv
import Mathlib.Data.List.Basic
import Mathlib.Data.List.Range

/-! The collective-anomaly conversions (C05), block by block.  The dense labels of a valid interval
    list are zeros up to the first start, then one block of the first label, then the labels of the
    rest; `collD2SAux` emits nothing on zeros, extends the open run on its own label, and closes it
    at the first label that differs (`collD2SAux_flush`), so each block comes back as one interval. -/
namespace Skc

/-- sorted, pairwise disjoint (adjacency allowed), non-empty intervals inside `[lo, n]` -/
def ValidIv : Nat → List (Nat × Nat) → Nat → Prop
  | lo, [], n => lo ≤ n
  | lo, (s, e) :: rest, n => lo ≤ s ∧ s < e ∧ ValidIv e rest n

theorem validIv_le (lo : Nat) (l : List (Nat × Nat)) (n : Nat) (h : ValidIv lo l n) : lo ≤ n := by
  induction l generalizing lo with
  | nil => exact h
  | cons a rest ih => exact (h.1.trans_lt h.2.1).le.trans (ih a.2 h.2.2)

theorem validIv_lb (lo : Nat) (l : List (Nat × Nat)) (n : Nat) (h : ValidIv lo l n)
    (a : Nat × Nat) (ha : a ∈ l) : lo ≤ a.1 := by
  induction l generalizing lo with
  | nil => exact absurd ha List.not_mem_nil
  | cons b rest ih =>
    rcases List.mem_cons.1 ha with rfl | ha
    · exact h.1
    · exact (h.1.trans_lt h.2.1).le.trans (ih b.2 h.2.2 ha)

theorem map_range'_const {f : Nat → Nat} {c lo len : Nat}
    (h : ∀ i, lo ≤ i → i < lo + len → f i = c) :
    (List.range' lo len).map f = List.replicate len c := by
  simpa using List.map_eq_replicate_iff.2 fun i hi =>
    h i (List.mem_range'_1.1 hi).1 (List.mem_range'_1.1 hi).2

theorem collD2SAux_zeros (len : Nat) (tail : List Nat) (i : Nat) :
    collD2SAux (List.replicate len 0 ++ tail) i none = collD2SAux tail (i + len) none := by
  induction len generalizing i with
  | zero => rfl
  | succ len ih =>
    simp only [List.replicate_succ, List.cons_append, collD2SAux, lt_irrefl, if_false]
    rw [ih, Nat.add_right_comm, Nat.add_assoc]

theorem collD2SAux_same (len lab s : Nat) (tail : List Nat) (i : Nat) :
    collD2SAux (List.replicate len lab ++ tail) i (some (s, lab)) =
      collD2SAux tail (i + len) (some (s, lab)) := by
  induction len generalizing i with
  | zero => rfl
  | succ len ih =>
    simp only [List.replicate_succ, List.cons_append, collD2SAux, if_true]
    rw [ih, Nat.add_right_comm, Nat.add_assoc]

theorem collD2SAux_flush {l : List Nat} {lab : Nat} (i s : Nat) (h : l.head? ≠ some lab) :
    collD2SAux l i (some (s, lab)) = (s, i) :: collD2SAux l i none := by
  cases l with
  | nil => rfl
  | cons v t =>
    have hv : v ≠ lab := by simpa using h
    simp only [collD2SAux, hv, if_false]

theorem collD2SAux_block (len lab : Nat) (hlab : 0 < lab) (tail : List Nat) (i : Nat)
    (h : tail.head? ≠ some lab) :
    collD2SAux (List.replicate (len + 1) lab ++ tail) i none =
      (i, i + (len + 1)) :: collD2SAux tail (i + (len + 1)) none := by
  simp only [List.replicate_succ, List.cons_append, collD2SAux, hlab, if_true]
  rw [collD2SAux_same, collD2SAux_flush _ _ h, Nat.add_assoc, Nat.add_comm 1]

theorem labelAt_eq_zero (anoms : List (Nat × Nat)) (k i : Nat)
    (h : ∀ a ∈ anoms, ¬ (a.1 ≤ i ∧ i < a.2)) : labelAt anoms k i = 0 := by
  induction anoms generalizing k with
  | nil => rfl
  | cons a rest ih =>
    rw [labelAt, if_neg (h a List.mem_cons_self)]
    exact ih (k + 1) fun b hb => h b (List.mem_cons_of_mem a hb)

theorem labelAt_below (anoms : List (Nat × Nat)) (lo n k i : Nat) (h : ValidIv lo anoms n)
    (hi : i < lo) : labelAt anoms k i = 0 :=
  labelAt_eq_zero anoms k i fun a ha hc => (hi.trans_le (validIv_lb lo anoms n h a ha)).not_ge hc.1

theorem labelAt_eq_zero_or_lt (l : List (Nat × Nat)) (k i : Nat) :
    labelAt l k i = 0 ∨ k < labelAt l k i := by
  induction l generalizing k with
  | nil => exact .inl rfl
  | cons a rest ih =>
    rw [labelAt]
    split
    · exact .inr (Nat.lt_succ_self k)
    · exact (ih (k + 1)).imp_right Nat.lt_of_succ_lt

/-- zeros on `[lo, s)`, a positive label on `[s, e)` and another label at `e`: the scan from `lo`
    emits `(s, e)` and goes on from `e` with no open run -/
theorem collD2SAux_interval (f : Nat → Nat) {lo s e n lab : Nat} (hlab : 0 < lab)
    (hs : lo ≤ s) (hse : s < e) (hen : e ≤ n) (h0 : ∀ i, lo ≤ i → i < s → f i = 0)
    (h1 : ∀ i, s ≤ i → i < e → f i = lab) (h2 : f e ≠ lab) :
    collD2SAux ((List.range' lo (n - lo)).map f) lo none =
      (s, e) :: collD2SAux ((List.range' e (n - e)).map f) e none := by
  -- `s = lo + gap`, `e = s + (len + 1)`, `n = e + after`: the range splits into these three parts
  obtain ⟨gap, rfl⟩ := Nat.exists_eq_add_of_le hs
  obtain ⟨len, rfl⟩ : ∃ len, e = lo + gap + (len + 1) := Nat.exists_eq_add_of_lt hse
  obtain ⟨after, rfl⟩ := Nat.exists_eq_add_of_le hen
  have hn : lo + gap + (len + 1) + after = lo + (gap + ((len + 1) + after)) := by
    rw [Nat.add_assoc, Nat.add_assoc]
  rw [Nat.add_sub_cancel_left, hn, Nat.add_sub_cancel_left, ← List.range'_append_1,
    ← List.range'_append_1, List.map_append, List.map_append, map_range'_const h0,
    collD2SAux_zeros, map_range'_const h1, collD2SAux_block _ _ hlab]
  cases after with
  | zero => simp
  | succ after => simpa [List.range'_succ] using h2

/-- the round trip from any position `lo` and any label offset `k`, as the induction over the
    intervals needs it -/
theorem coll_roundtrip_aux (anoms : List (Nat × Nat)) (lo k n : Nat) (h : ValidIv lo anoms n) :
    collD2SAux ((List.range' lo (n - lo)).map (labelAt anoms k)) lo none = anoms := by
  induction anoms generalizing lo k with
  | nil =>
    rw [map_range'_const (f := labelAt [] k) (c := 0) fun _ _ _ => rfl,
      ← List.append_nil (List.replicate (n - lo) 0), collD2SAux_zeros]
    rfl
  | cons a rest ih =>
    obtain ⟨s, e⟩ := a
    obtain ⟨h1, h2, h3⟩ := h
    -- from `e` on the labels are those of `rest`, none of them `k + 1`
    have hrest : ∀ i, e ≤ i → labelAt ((s, e) :: rest) k i = labelAt rest (k + 1) i :=
      fun i hi => if_neg fun h => Nat.not_lt.2 hi h.2
    rw [collD2SAux_interval _ (Nat.succ_pos k) h1 h2 (validIv_le e rest n h3),
      List.map_congr_left fun i hi => hrest i (List.mem_range'_1.1 hi).1, ih e (k + 1) h3]
    · exact fun i _ hi => labelAt_below _ _ _ k i ⟨Nat.le_refl _, h2, h3⟩ hi
    · exact fun i a b => if_pos ⟨a, b⟩
    · rw [hrest e (Nat.le_refl e)]
      have := labelAt_eq_zero_or_lt rest (k + 1) e
      omega

end Skc
