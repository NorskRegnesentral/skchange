import Skc.Model.Conv
import Mathlib.Data.List.Sort

/-! The subset-anomaly (MVCAPA) conversions (C05): which cells carry which label, and the dense
    matrix of a label function as `subD2S` reads it. -/
namespace Skc

/-- a valid subset-anomaly output: rows sorted, pairwise disjoint (adjacent allowed), non-empty,
    inside `[lo, n]`; columns non-empty, strictly increasing, below `p` -/
def ValidSub : Nat → List ((Nat × Nat) × List Nat) → Nat → Nat → Prop
  | lo, [], n, _ => lo ≤ n
  | lo, ((s, e), cols) :: rest, n, p =>
      lo ≤ s ∧ s < e ∧ cols ≠ [] ∧ cols.Pairwise (· < ·) ∧ (∀ j ∈ cols, j < p) ∧ ValidSub e rest n p

theorem validSub_le (l : List ((Nat × Nat) × List Nat)) (lo n p : Nat) (h : ValidSub lo l n p) :
    lo ≤ n := by
  induction l generalizing lo with
  | nil => exact h
  | cons b rest ih =>
    obtain ⟨⟨s, e⟩, cols⟩ := b
    obtain ⟨h1, h2, _, _, _, hrest⟩ := h
    exact (h1.trans_lt h2).le.trans (ih e hrest)

theorem validSub_mem (l : List ((Nat × Nat) × List Nat)) (lo n p : Nat) (h : ValidSub lo l n p)
    (a : (Nat × Nat) × List Nat) (ha : a ∈ l) :
    lo ≤ a.1.1 ∧ a.1.1 < a.1.2 ∧ a.1.2 ≤ n ∧ a.2 ≠ [] ∧ a.2.Pairwise (· < ·) ∧ ∀ j ∈ a.2, j < p := by
  induction l generalizing lo with
  | nil => exact absurd ha List.not_mem_nil
  | cons b rest ih =>
    obtain ⟨⟨s, e⟩, cols⟩ := b
    obtain ⟨h1, h2, h3, h4, h5, h6⟩ := h
    rcases List.mem_cons.1 ha with rfl | ha
    · exact ⟨h1, h2, validSub_le rest e n p h6, h3, h4, h5⟩
    · obtain ⟨hlo, hrest⟩ := ih e h6 ha
      exact ⟨(h1.trans_lt h2).le.trans hlo, hrest⟩

/-- later anomalies overwrite earlier ones (`contains` read as membership) -/
theorem subLabelAt_cons (s e : Nat) (cols : List Nat) (rest : List ((Nat × Nat) × List Nat))
    (k i j : Nat) : subLabelAt (((s, e), cols) :: rest) k i j =
      if subLabelAt rest (k + 1) i j ≠ 0 then subLabelAt rest (k + 1) i j
      else if s ≤ i ∧ i < e ∧ j ∈ cols then k + 1 else 0 := by
  simp only [subLabelAt, List.contains_iff_mem]

/-- a non-zero label names an anomaly that covers the cell -/
theorem subLabelAt_val (anoms : List ((Nat × Nat) × List Nat)) (k i j : Nat)
    (h : subLabelAt anoms k i j ≠ 0) :
    ∃ idx, ∃ _ : idx < anoms.length, subLabelAt anoms k i j = k + idx + 1 ∧
      (anoms[idx]).1.1 ≤ i ∧ i < (anoms[idx]).1.2 ∧ j ∈ (anoms[idx]).2 := by
  induction anoms generalizing k with
  | nil => exact absurd rfl h
  | cons b rest ih =>
    obtain ⟨⟨s, e⟩, cols⟩ := b
    rw [subLabelAt_cons] at h ⊢
    by_cases hl : subLabelAt rest (k + 1) i j ≠ 0
    · obtain ⟨idx, hidx, hv, hc⟩ := ih (k + 1) hl
      refine ⟨idx + 1, Nat.succ_lt_succ hidx, ?_, hc⟩
      rw [if_pos hl, hv, Nat.add_right_comm k 1 idx]
      rfl
    · rw [if_neg hl] at h ⊢
      by_cases hc : s ≤ i ∧ i < e ∧ j ∈ cols
      · exact ⟨0, Nat.succ_pos _, if_pos hc, hc⟩
      · exact absurd (if_neg hc) h

theorem subLabelAt_below (anoms : List ((Nat × Nat) × List Nat)) (lo n p k i j : Nat)
    (h : ValidSub lo anoms n p) (hi : i < lo) : subLabelAt anoms k i j = 0 := by
  by_contra hne
  obtain ⟨idx, hidx, _, h1, _⟩ := subLabelAt_val anoms k i j hne
  exact (hi.trans_le (validSub_mem anoms lo n p h _ (List.getElem_mem hidx)).1).not_ge h1

/-- a cell covered by the `idx`-th anomaly of a valid output carries its label: the rows of the
    later anomalies lie beyond it, so none of them overwrites the cell -/
theorem subLabelAt_cov (anoms : List ((Nat × Nat) × List Nat)) (lo n p k idx i j : Nat)
    (hv : ValidSub lo anoms n p) (hidx : idx < anoms.length)
    (h1 : (anoms[idx]).1.1 ≤ i) (h2 : i < (anoms[idx]).1.2) (h3 : j ∈ (anoms[idx]).2) :
    subLabelAt anoms k i j = k + idx + 1 := by
  induction anoms generalizing lo k idx with
  | nil => cases hidx
  | cons b rest ih =>
    obtain ⟨⟨s, e⟩, cols⟩ := b
    obtain ⟨_, _, _, _, _, hrest⟩ := hv
    rw [subLabelAt_cons]
    cases idx with
    | zero =>
      rw [if_neg (not_not.2 (subLabelAt_below rest e n p (k + 1) i j hrest h2)),
        if_pos ⟨h1, h2, h3⟩]
    | succ idx =>
      rw [ih e (k + 1) idx hrest (Nat.lt_of_succ_lt_succ hidx) h1 h2 h3,
        if_pos (Nat.succ_ne_zero _), Nat.add_right_comm k 1 idx]
      rfl

/-! ### the dense matrix of a label function, as `subD2S` reads it -/

def matOf (L : Nat → Nat → Nat) (n p : Nat) : List (List Nat) :=
  (List.range n).map (fun i => (List.range p).map (fun j => L i j))

theorem mem_matOf_flatten (L : Nat → Nat → Nat) (n p v : Nat) :
    v ∈ (matOf L n p).flatten ↔ ∃ i, i < n ∧ ∃ j, j < p ∧ L i j = v := by
  simp only [matOf, List.mem_flatten, List.mem_map, List.mem_range, exists_exists_and_eq_and]

theorem row_contains (L : Nat → Nat → Nat) (n p i v : Nat) (hi : i < n) :
    ((matOf L n p).getD i []).contains v = true ↔ ∃ j, j < p ∧ L i j = v := by
  simp [matOf, List.getD_eq_getElem?_getD, hi]

theorem col_any (L : Nat → Nat → Nat) (n p j v : Nat) (hj : j < p) :
    (matOf L n p).any (fun row => row.getD j 0 == v) = true ↔ ∃ i, i < n ∧ L i j = v := by
  simp [matOf, List.getD_eq_getElem?_getD, hj]

theorem le_foldl_max (l : List Nat) (b x : Nat) (h : x ≤ b ∨ x ∈ l) : x ≤ l.foldl max b := by
  induction l generalizing b with
  | nil => simpa using h
  | cons a t ih =>
    refine ih (max b a) ?_
    rcases h with h | h
    · exact .inl (le_trans h (le_max_left _ _))
    · rcases List.mem_cons.1 h with rfl | h
      · exact .inl (le_max_right _ _)
      · exact .inr h

/-- `whichIdx` is the strictly increasing list of the indices it selects -/
theorem whichIdx_eq (n : Nat) (f : Nat → Bool) (l : List Nat) (hl : l.Pairwise (· < ·))
    (h : ∀ i, i ∈ l ↔ i < n ∧ f i = true) : whichIdx n f = l :=
  List.Pairwise.eq_of_mem_iff (List.Pairwise.filter _ List.pairwise_lt_range) hl fun i => by
    simp [whichIdx, h]

/-- the values `subD2S` lists, when the positive labels present are exactly `1..K` -/
theorem vals_matOf (L : Nat → Nat → Nat) (n p K : Nat) (hle : ∀ i j, L i j ≤ K)
    (hmem : ∀ k, k < K → k + 1 ∈ (matOf L n p).flatten) :
    (List.range ((matOf L n p).flatten.foldl max 0 + 1)).filter
      (fun v => decide (0 < v) && (matOf L n p).flatten.contains v) =
        (List.range K).map (· + 1) := by
  refine whichIdx_eq _ _ _ (List.pairwise_map.2 (List.pairwise_lt_range.imp Nat.succ_lt_succ))
    fun v => ?_
  simp only [List.mem_map, List.mem_range, Bool.and_eq_true, decide_eq_true_eq,
    List.contains_iff_mem]
  constructor
  · rintro ⟨k, hk, rfl⟩
    exact ⟨Nat.lt_succ_of_le (le_foldl_max _ 0 _ (Or.inr (hmem k hk))), Nat.succ_pos k, hmem k hk⟩
  · rintro ⟨_, h0, hv⟩
    obtain ⟨i, _, j, _, rfl⟩ := (mem_matOf_flatten L n p v).1 hv
    exact ⟨L i j - 1, Nat.sub_one_lt_of_le h0 (hle i j), Nat.sub_add_cancel h0⟩

/-- a value that sits exactly on the box `[s, e) × cols` occurs in the matrix (in row `s`), and the
    entry `subD2S` builds for it is that box -/
theorem box_matOf (L : Nat → Nat → Nat) (n p v s e : Nat) (cols : List Nat) (hse : s < e)
    (hen : e ≤ n) (hne : cols ≠ []) (hsort : cols.Pairwise (· < ·)) (hp : ∀ j ∈ cols, j < p)
    (hL : ∀ i j, L i j = v ↔ s ≤ i ∧ i < e ∧ j ∈ cols) :
    v ∈ (matOf L n p).flatten ∧
    (((whichIdx n (fun i => ((matOf L n p).getD i []).contains v)).headD 0,
      (whichIdx n (fun i => ((matOf L n p).getD i []).contains v)).getLastD 0 + 1),
      whichIdx p (fun j => (matOf L n p).any (fun row => row.getD j 0 == v))) = ((s, e), cols) := by
  obtain ⟨j0, hj0⟩ := List.exists_mem_of_ne_nil _ hne
  obtain ⟨d, rfl⟩ := Nat.exists_eq_add_of_lt hse
  have hsn : s < n := Nat.lt_of_lt_of_le hse hen
  have hrows : whichIdx n (fun i => ((matOf L n p).getD i []).contains v) =
      List.range' s (d + 1) := by
    refine whichIdx_eq _ _ _ List.pairwise_lt_range' fun i => ?_
    rw [List.mem_range'_1]
    constructor
    · intro hi
      have hin : i < n := Nat.lt_of_lt_of_le hi.2 hen
      exact ⟨hin, (row_contains L n p i v hin).2 ⟨j0, hp j0 hj0, (hL i j0).2 ⟨hi.1, hi.2, hj0⟩⟩⟩
    · rintro ⟨hin, hc⟩
      obtain ⟨j, _, hl⟩ := (row_contains L n p i v hin).1 hc
      obtain ⟨h1, h2, _⟩ := (hL i j).1 hl
      exact ⟨h1, h2⟩
  have hcols : whichIdx p (fun j => (matOf L n p).any (fun row => row.getD j 0 == v)) = cols := by
    refine whichIdx_eq _ _ _ hsort fun j => ⟨fun hj =>
      ⟨hp j hj, (col_any L n p j v (hp j hj)).2 ⟨s, hsn, (hL s j).2 ⟨le_rfl, hse, hj⟩⟩⟩, ?_⟩
    rintro ⟨hj, hc⟩
    obtain ⟨i, _, hl⟩ := (col_any L n p j v hj).1 hc
    exact ((hL i j).1 hl).2.2
  refine ⟨(mem_matOf_flatten L n p v).2 ⟨s, hsn, j0, hp j0 hj0, (hL s j0).2 ⟨le_rfl, hse, hj0⟩⟩, ?_⟩
  have hlast : (List.range' s (d + 1)).getLastD 0 = s + d := by simp [List.range'_concat]
  rw [hrows, hcols, hlast]
  rfl

/-- any matrix whose positive level sets are the boxes of a valid output converts back to it: value
    `k + 1` sits exactly on the `k`-th box -/
theorem subD2S_matOf (L : Nat → Nat → Nat) (n p : Nat) (anoms : List ((Nat × Nat) × List Nat))
    (hv : ValidSub 0 anoms n p) (hle : ∀ i j, L i j ≤ anoms.length)
    (hL : ∀ k (hk : k < anoms.length) i j,
      L i j = k + 1 ↔ (anoms[k]).1.1 ≤ i ∧ i < (anoms[k]).1.2 ∧ j ∈ (anoms[k]).2) :
    subD2S (matOf L n p) p = anoms := by
  have hbox := fun k (hk : k < anoms.length) => by
    obtain ⟨_, hse, hen, hne, hsort, hp⟩ := validSub_mem anoms 0 n p hv _ (List.getElem_mem hk)
    exact box_matOf L n p (k + 1) _ _ _ hse hen hne hsort hp (hL k hk)
  have hvals := vals_matOf L n p anoms.length hle fun k hk => (hbox k hk).1
  have hlen : (matOf L n p).length = n := by rw [matOf, List.length_map, List.length_range]
  simp only [subD2S, hlen, hvals, List.map_map]
  refine List.ext_getElem (by rw [List.length_map, List.length_range]) fun k _ hk => ?_
  rw [List.getElem_map, List.getElem_range]
  exact (hbox k hk).2

end Skc
