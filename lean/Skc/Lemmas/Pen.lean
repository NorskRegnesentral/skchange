import Skc.Model.Pen
import Skc.Lemmas.Select
import Mathlib.Algebra.Order.Group.Defs
import Mathlib.Algebra.Order.BigOperators.Group.List
import Mathlib.Data.List.Sort
import Mathlib.Data.List.Perm.Subperm
import Mathlib.Tactic.Abel
import Mathlib.Tactic.Linarith

/-! The general branch of `penalise_savings` (`penGeneral`): NumPy's `argmax` over the running sums of the
    decreasingly sorted savings is the best value over *all* non-empty selections of components
    (`IsBestSel`), because the `k` largest savings (`topVals`) out-sum every selection of `k`. -/
namespace Skc
set_option linter.unusedSectionVars false
variable {α : Type} [AddCommGroup α]

theorem sumL_eq_sum (l : List α) : sumL l = l.sum := by
  induction l with
  | nil => rfl
  | cons a t ih => simp [sumL, ih]

theorem cumsumFrom_getElem? (acc : α) (l : List α) (k : Nat) (hk : k < l.length) :
    (cumsumFrom acc l)[k]? = some (acc + (l.take (k + 1)).sum) := by
  induction l generalizing acc k with
  | nil => simp at hk
  | cons a t ih =>
    cases k with
    | zero => simp [cumsumFrom]
    | succ k =>
      simp only [cumsumFrom, List.getElem?_cons_succ, List.take_succ_cons, List.sum_cons]
      rw [ih (acc + a) k (Nat.lt_of_succ_lt_succ hk), add_assoc]

theorem cumsumFrom_length (acc : α) (l : List α) : (cumsumFrom acc l).length = l.length := by
  induction l generalizing acc with
  | nil => rfl
  | cons a t ih => simp [cumsumFrom, ih]

theorem sum_take_zipWith_sub (a b : List α) (k : Nat) (hab : a.length = b.length) :
    ((List.zipWith (· - ·) a b).take k).sum = (a.take k).sum - (b.take k).sum := by
  induction a generalizing b k with
  | nil => rw [List.eq_nil_of_length_eq_zero hab.symm]; simp
  | cons x t ih =>
    cases b with
    | nil => simp at hab
    | cons y u =>
      cases k with
      | zero => simp
      | succ k =>
        simp only [List.zipWith_cons_cons, List.take_succ_cons, List.sum_cons]
        rw [ih u k (Nat.succ.inj hab), sub_add_sub_comm]

variable [LinearOrder α] [IsOrderedAddMonoid α]

theorem sublist_sum_le_take {l : List α} (hl : l.Pairwise (· ≥ ·)) {m : List α} (hm : m.Sublist l) :
    m.sum ≤ (l.take m.length).sum := by
  induction l generalizing m with
  | nil => rw [List.sublist_nil.1 hm]; rfl
  | cons a t ih =>
    cases m with
    | nil => exact le_refl _
    | cons b m =>
      -- the head of the selection is at most the head of the list, and its tail selects from the tail
      obtain ⟨ha, ht⟩ := List.pairwise_cons.1 hl
      have hb : b ≤ a := (List.mem_cons.1 (hm.subset List.mem_cons_self)).elim (fun h => h.le) (ha b)
      simp only [List.length_cons, List.take_succ_cons, List.sum_cons]
      exact add_le_add hb (ih ht hm.tail)

theorem orderDesc_perm (sav : List α) :
    (orderDesc sav).Perm (sav.zipIdx.map (fun (v, i) => (i, v))) :=
  List.mergeSort_perm _ _

theorem orderDesc_vals_perm (sav : List α) : ((orderDesc sav).map (·.2)).Perm sav := by
  simpa [List.map_map, Function.comp_def, List.zipIdx_map_fst] using (orderDesc_perm sav).map (·.2)

theorem orderDesc_vals_sorted (sav : List α) : ((orderDesc sav).map (·.2)).Pairwise (· ≥ ·) := by
  have h : (orderDesc sav).Pairwise (fun a b => decide (b.2 ≤ a.2) = true) :=
    List.pairwise_mergeSort (le := fun (a b : Nat × α) => decide (b.2 ≤ a.2))
      (fun a b c h1 h2 => decide_eq_true (le_trans (of_decide_eq_true h2) (of_decide_eq_true h1)))
      (fun a b => by simpa using le_total b.2 a.2) _
  exact List.pairwise_map.2 (h.imp of_decide_eq_true)

theorem orderDesc_length (sav : List α) : (orderDesc sav).length = sav.length := by
  simpa using (orderDesc_perm sav).length_eq

theorem orderDesc_idx_perm (x : List α) : ((orderDesc x).map (·.1)).Perm (List.range x.length) := by
  simpa [List.map_map, Function.comp_def, List.zipIdx_map_snd, List.range_eq_range'] using
    (orderDesc_perm x).map (·.1)

theorem orderDesc_entry (x : List α) : ∀ e ∈ orderDesc x, x.getD e.1 0 = e.2 := by
  intro e he
  have hmem : e ∈ x.zipIdx.map (fun (v, i) => (i, v)) := (orderDesc_perm x).mem_iff.1 he
  obtain ⟨⟨v, i⟩, hvi, rfl⟩ := List.mem_map.1 hmem
  obtain ⟨hi, hv⟩ := List.mem_zipIdx' hvi
  simp only
  rw [List.getD_eq_getElem?_getD, List.getElem?_eq_getElem hi, hv]
  rfl

/-- the `k` largest savings, in decreasing order -/
def topVals (sav : List α) (k : Nat) : List α := ((orderDesc sav).map (·.2)).take k

theorem topVals_subperm (sav : List α) (k : Nat) : (topVals sav k).Subperm sav :=
  (List.take_sublist _ _).subperm.trans (orderDesc_vals_perm sav).subperm

theorem topVals_length {sav : List α} {k : Nat} (hk : k ≤ sav.length) : (topVals sav k).length = k := by
  simp [topVals, orderDesc_length, hk]

theorem topVals_eq_getD (sav : List α) (k : Nat) :
    topVals sav k = (((orderDesc sav).take k).map (·.1)).map (fun c => sav.getD c 0) := by
  rw [topVals, ← List.map_take, List.map_map]
  exact List.map_congr_left fun e he => (orderDesc_entry sav e (List.mem_of_mem_take he)).symm

/-- any selection of `k` of the savings (a sub-multiset) sums to at most the `k` largest -/
theorem subperm_sum_le_topVals {sav J : List α} (hJ : J.Subperm sav) :
    J.sum ≤ (topVals sav J.length).sum := by
  obtain ⟨J', hperm, hsub⟩ := hJ.trans (orderDesc_vals_perm sav).symm.subperm
  rw [← hperm.sum_eq, ← hperm.length_eq]
  exact sublist_sum_le_take (orderDesc_vals_sorted sav) hsub

/-- value of selecting the components with savings `J`: `Σ J − Σ_{i<|J|} β_i − alpha`
    (a `betas` list shorter than `|J|` charges nothing for the missing entries — CAPA passes `[0]`) -/
def selVal (alpha : α) (betas J : List α) : α := J.sum - (betas.take J.length).sum - alpha

/-- `v` is the specification's penalised saving: attained by a non-empty selection of components
    (a sub-multiset of the savings) and an upper bound for all of them -/
def IsBestSel (sav : List α) (alpha : α) (betas : List α) (v : α) : Prop :=
  (∃ J, J.Subperm sav ∧ J ≠ [] ∧ selVal alpha betas J = v) ∧
    ∀ J, J.Subperm sav → J ≠ [] → selVal alpha betas J ≤ v

theorem IsBestSel.unique {sav betas : List α} {alpha v w : α}
    (hv : IsBestSel sav alpha betas v) (hw : IsBestSel sav alpha betas w) : v = w := by
  obtain ⟨⟨J, hJ1, hJ2, hJ3⟩, hvu⟩ := hv
  obtain ⟨⟨J', hJ1', hJ2', hJ3'⟩, hwu⟩ := hw
  apply le_antisymm
  · rw [← hJ3]; exact hwu J hJ1 hJ2
  · rw [← hJ3']; exact hvu J' hJ1' hJ2'

/-- value of choosing the `k+1` best columns -/
def prefVal (sav : List α) (alpha : α) (betas : List α) (k : Nat) : α :=
  (((orderDesc sav).map (·.2)).take (k + 1)).sum - (betas.take (k + 1)).sum - alpha

theorem prefVal_eq_selVal {sav : List α} (alpha : α) (betas : List α) {k : Nat} (hk : k < sav.length) :
    prefVal sav alpha betas k = selVal alpha betas (topVals sav (k + 1)) := by
  rw [selVal, topVals_length hk]; rfl

theorem penGeneral_spec (sav : List α) (alpha : α) (betas : List α)
    (hlen : betas.length = sav.length) (hp : sav ≠ []) :
    let r := penGeneral sav alpha betas
    r.1 < sav.length ∧ r.2 = prefVal sav alpha betas r.1 ∧
      ∀ k, k < sav.length → prefVal sav alpha betas k ≤ r.2 := by
  have hsl : ((orderDesc sav).map (·.2)).length = sav.length := by rw [List.length_map, orderDesc_length]
  have hzl : (List.zipWith (· - ·) ((orderDesc sav).map (·.2)) betas).length = sav.length := by
    rw [List.length_zipWith, hsl, hlen, Nat.min_self]
  refine argmaxIdx_tabulated _ _ sav.length (prefVal sav alpha betas) (List.length_pos_iff.2 hp) ?_ ?_
  · rw [List.length_map, cumsumFrom_length, hzl]
  · intro k hk
    rw [List.getElem?_map, cumsumFrom_getElem? 0 _ k (hzl ▸ hk),
      sum_take_zipWith_sub _ betas (k + 1) (hsl.trans hlen.symm), zero_add]
    rfl

/-- **C03(i), general branch**: the penalised saving is the best over all non-empty selections of
    components (sub-multisets `J` of the savings), the `|J|` first betas and `alpha` being charged. -/
theorem penGeneral_ge_subset (sav : List α) (alpha : α) (betas : List α)
    (hlen : betas.length = sav.length) (J : List α) (hJ : J.Subperm sav) (hJne : J ≠ []) :
    J.sum - (betas.take J.length).sum - alpha ≤ (penGeneral sav alpha betas).2 := by
  cases J with
  | nil => exact absurd rfl hJne
  | cons b J' =>
    have hp : sav ≠ [] := List.ne_nil_of_length_pos (lt_of_lt_of_le (Nat.succ_pos _) hJ.length_le)
    exact le_trans (sub_le_sub_right (sub_le_sub_right (subperm_sum_le_topVals hJ) _) _)
      ((penGeneral_spec sav alpha betas hlen hp).2.2 J'.length hJ.length_le)

/-- the maximum is attained by the `k+1` largest savings, `k` the index the code returns -/
theorem penGeneral_attained {sav : List α} (alpha : α) {betas : List α}
    (hlen : betas.length = sav.length) (hp : sav ≠ []) :
    let J := topVals sav ((penGeneral sav alpha betas).1 + 1)
    J.Subperm sav ∧ J ≠ [] ∧ selVal alpha betas J = (penGeneral sav alpha betas).2 := by
  obtain ⟨hk, hval, _⟩ := penGeneral_spec sav alpha betas hlen hp
  refine ⟨topVals_subperm sav _, fun h => ?_, ?_⟩
  · simpa [h] using topVals_length hk
  · rw [hval, prefVal_eq_selVal alpha betas hk]

theorem penGeneral_isBest {sav : List α} (alpha : α) {betas : List α}
    (hlen : betas.length = sav.length) (hp : sav ≠ []) :
    IsBestSel sav alpha betas (penGeneral sav alpha betas).2 :=
  ⟨⟨_, penGeneral_attained alpha hlen hp⟩, penGeneral_ge_subset sav alpha betas hlen⟩

end Skc
