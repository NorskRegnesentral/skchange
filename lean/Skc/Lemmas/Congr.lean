import Skc.Model.Pelt
import Skc.Model.Capa
import Skc.Model.Det
import Skc.Lemmas.Cbs
import Skc.Lemmas.Select
import Skc.Lemmas.Sbs
import Skc.Lemmas.PeltInv

/-! The detectors' outputs depend on the scorer only through its values on *admissible* cuts inside
    `[0, n]`: two score tables that agree there give identical outputs (scores and detections).
    This lifts every scorer-level invariance (C12: column permutation, shift, scale) to the detector
    output, and is the model-level content of "outputs are a function of the evaluated scores".

    A `_congr_read` theorem asks for agreement on the cuts the detector evaluates and no others; a
    `_congr` theorem is the corollary for tables that agree on every cut inside `[0, n]`. -/
namespace Skc
set_option linter.unusedSectionVars false
variable {α : Type}

/-! ### PELT -/
section pelt
variable [Add α] [Neg α] [Zero α]

/-- Two iterations on states with the same back-pointers, starts and queue, whose candidate values
    correspond under `φ`, take the same decisions when neither the selector nor the pruning test
    sees `φ`; the recorded value is the image under `φ`. -/
theorem peltStep_rel {pick : (Nat → α) → List Nat → Nat} {pr : α → α → Bool}
    (hext : PickExt pick) (hmem : PickMem pick)
    (cost cost' : Nat → Nat → α) (pen : α) (m delay : Nat) {st st' : PeltSt α} (t : Nat) (φ : α → α)
    (hstarts : st'.starts = st.starts)
    (hφ : ∀ s ∈ st.starts ++ [t - (m - 1)],
      st'.opt s + cost' s (t + 1) + pen = φ (st.opt s + cost s (t + 1) + pen))
    (hpick : ∀ (f : Nat → α) l, pick (fun s => φ (f s)) l = pick f l)
    (hpr : ∀ c b, pr (φ c) (φ b + pen) = pr c (b + pen)) :
    peltStep pick pr cost' pen m delay st' t =
      let c : Nat → α := fun s => st.opt s + cost s (t + 1) + pen
      let S := st.starts ++ [t - (m - 1)]
      peltNext delay st' t (t - (m - 1)) (φ (c (pick c S))) (pick c S)
        (S.filter fun s => pr (c s) (c (pick c S) + pen)) := by
  extract_lets c S
  have hb : pick (fun s => st'.opt s + cost' s (t + 1) + pen) S = pick c S := by
    rw [hext _ (fun s => φ (c s)) S hφ, hpick]
  have hv : st'.opt (pick c S) + cost' (pick c S) (t + 1) + pen = φ (c (pick c S)) :=
    hφ _ (hmem _ _ (by simp))
  have hf : S.filter (fun s => pr (st'.opt s + cost' s (t + 1) + pen) (φ (c (pick c S)) + pen)) =
      S.filter fun s => pr (c s) (c (pick c S) + pen) :=
    List.filter_congr fun s hs => by rw [hφ s hs, hpr]
  simp only [peltStep, peltNext, hstarts]
  rw [hb, hv, hf]

section read
variable {pick : (Nat → α) → List Nat → Nat} {pr : α → α → Bool} (hext : PickExt pick) (hmem : PickMem pick)
  {cost cost' : Nat → Nat → α} {pen : α} {m delay n : Nat} (hm : 1 ≤ m)
  (h : ∀ s e, s + m ≤ e → e ≤ n → cost s e = cost' s e)

variable (pick pr cost pen delay) in
include hm in
/-- the candidate starts of iteration `k`, the kept starts and the new one, are at most `m + k`: an
    iteration keeps a subset of its candidates -/
theorem peltIter_cands :
    ∀ k, ∀ s ∈ (peltIter pick pr cost pen m delay k).starts ++ [m + k], s ≤ m + k := by
  intro k
  induction k with
  | zero =>
    intro s hs
    rcases List.mem_append.1 hs with h | h
    · exact (List.mem_singleton.1 h).le.trans (Nat.zero_le _)
    · exact (List.mem_singleton.1 h).le
  | succ k ih =>
    intro s hs
    rcases List.mem_append.1 hs with h | h
    · have h := (List.mem_filter.1 h).1
      rw [pelt_new_eq hm k] at h
      exact Nat.le_succ_of_le (ih s h)
    · exact (List.mem_singleton.1 h).le

include hext hmem hm h

theorem peltIter_congr_read : ∀ k, 2 * m + k ≤ n + 1 →
    peltIter pick pr cost pen m delay k = peltIter pick pr cost' pen m delay k := by
  intro k hk
  induction k with
  | zero =>
    -- the initial scores read `cost 0 j` for `m ≤ j < 2m`
    unfold peltIter peltInit
    congr 1
    funext j
    exact ite_congr rfl (fun _ => rfl) fun h1 => ite_congr rfl (fun h2 =>
      h 0 j ((Nat.zero_add m).symm ▸ Nat.le_of_not_lt h1) (Nat.le_of_lt_succ (Nat.lt_of_lt_of_le h2 hk))) fun _ => rfl
  | succ k ih =>
    rw [peltIter, peltIter, ← ih (Nat.le_of_succ_le hk)]
    refine (peltStep_rel hext hmem cost cost' pen m delay (2 * m - 1 + k) id rfl (fun s hs => ?_)
      (fun _ _ => rfl) (fun _ _ => rfl)).symm
    rw [pelt_new_eq hm k] at hs
    have := peltIter_cands pick pr cost pen delay hm k s hs
    rw [pelt_end_eq hm k, h s (2 * m + k) (by omega) (Nat.le_of_succ_le_succ hk)]
    rfl

/-- **PELT reads admissible intervals only**: cost tables that agree on every interval `[s, e)` of at
    least `m` rows inside `[0, n]` give the same scores and the same changepoints -/
theorem runPelt_congr_read (hn : 2 * m ≤ n) :
    runPelt pick pr cost pen m delay n = runPelt pick pr cost' pen m delay n := by
  simp only [runPelt]
  rw [peltIter_congr_read hext hmem hm h (n + 1 - 2 * m) (Nat.add_sub_cancel' (Nat.le_succ_of_le hn)).le]

end read

/-- **PELT**: cost tables that agree on every interval `[s, e)` with `s < e ≤ n` give the same
    scores and the same changepoints -/
theorem runPelt_congr (pick : (Nat → α) → List Nat → Nat) (pr : α → α → Bool)
    (hext : PickExt pick) (hmem : PickMem pick)
    (cost cost' : Nat → Nat → α) (pen : α) (m delay n : Nat) (hm : 1 ≤ m) (hn : 2 * m ≤ n)
    (h : ∀ s e, s < e → e ≤ n → cost s e = cost' s e) :
    runPelt pick pr cost pen m delay n = runPelt pick pr cost' pen m delay n :=
  runPelt_congr_read hext hmem hm (fun s e h1 h2 => h s e (lt_of_add_le hm h1) h2) hn

end pelt

/-! ### CAPA -/
section capa
variable [Add α] [Zero α] [LT α] [DecidableLT α] [LE α] [DecidableLE α]

section read
variable {pick : (Nat → α) → List Nat → Nat} {pr : α → α → Bool} (hext : PickExt pick) (hmem : PickMem pick)
  {PS PS' : Nat → Nat → α} {PP PP' : Nat → α} {K : α} {m M delay n : Nat}

include hext hmem in
/-- an iteration depends on the savings through the collective savings of its candidate starts and the
    point saving of its row only -/
theorem capaStep_congr {st : CapaSt α} {t : Nat}
    (h : ∀ s ∈ (if m ≤ t + 1 then st.starts ++ [t + 1 - m] else st.starts), PS s (t + 1) = PS' s (t + 1))
    (hp : PP t = PP' t) :
    capaStep pick pr PS PP K m M delay st t = capaStep pick pr PS' PP' K m M delay st t := by
  generalize hstarts : (if m ≤ t + 1 then st.starts ++ [t + 1 - m] else st.starts) = starts at h
  have hb : pick (fun s => st.opt s + PS s (t + 1)) starts = pick (fun s => st.opt s + PS' s (t + 1)) starts :=
    hext _ _ _ fun s hs => by rw [h s hs]
  have hf : ∀ v : α, starts.filter (fun s => pr (st.opt s + PS s (t + 1) + K) v) =
      starts.filter (fun s => pr (st.opt s + PS' s (t + 1) + K) v) :=
    fun v => List.filter_congr fun s hs => by rw [h s hs]
  by_cases hne : starts = []
  · -- no candidate start: the collective branch is dead and the filters are empty
    simp only [capaStep, hstarts, hne, hp, ne_eq, not_true_eq_false, false_and, if_false,
      List.filter_nil]
  · have hv := h _ (hmem (fun s => st.opt s + PS s (t + 1)) starts hne)
    simp only [capaStep, hstarts, ← hb, ← hv, hf, hp]

/-- the candidate starts of an iteration to end `k + 1`, when the kept starts begin admissible intervals
    ending at `k + 1` (`m ≤ k + 1 - s ≤ M`): those, and the new start `k + 1 - m` -/
theorem capa_cands {k : Nat} {starts : List Nat} (hst : ∀ s ∈ starts, s + m ≤ k ∧ k < s + M) :
    ∀ s ∈ (if m ≤ k + 1 then starts ++ [k + 1 - m] else starts),
      s + m ≤ k + 1 ∧ (k + 1 ≤ s + M ∨ k + 1 = s + m) :=
  fun s hs => (mem_capaCands.1 hs).elim
    (fun h => ⟨Nat.le_succ_of_le (hst s h).1, Or.inl (hst s h).2⟩) fun h => ⟨h.le, Or.inr h.symm⟩

variable (pick pr PS PP K m M delay) in
/-- the starts kept after `k` iterations belong to admissible intervals ending at `k + 1`: an iteration
    keeps a subset of its candidates, and drops those with `s + M ≤ k + 1` last -/
theorem capaIterG_starts :
    ∀ k, ∀ s ∈ (capaIterG pick pr PS PP K m M delay k).starts, s + m ≤ k ∧ k < s + M := by
  intro k
  induction k with
  | zero =>
    intro s hs
    simp [capaIterG, capaInit] at hs
  | succ k ih =>
    intro s hs
    simp only [capaIterG, capaStep, List.mem_filter, decide_eq_true_eq] at hs
    exact ⟨(capa_cands ih s hs.1.1).1, Nat.lt_of_not_le hs.2⟩

include hext hmem in
/-- **what CAPA reads.**  Iteration `e` evaluates the collective saving of `[s, e)` for the starts kept so
    far (`m ≤ e - s ≤ M`) and for the new start `e - m`, and the point saving of `e - 1`; tables that agree
    there give the same state.  No relation between `m` and `M` is needed. -/
theorem capaIterG_congr_read
    (h : ∀ s e, s + m ≤ e → e ≤ s + M ∨ e = s + m → e ≤ n → PS s e = PS' s e)
    (hp : ∀ t, t < n → PP t = PP' t) :
    ∀ k, k ≤ n → capaIterG pick pr PS PP K m M delay k = capaIterG pick pr PS' PP' K m M delay k := by
  intro k hk
  induction k with
  | zero => rfl
  | succ k ih =>
    rw [capaIterG, capaIterG, ← ih (Nat.le_of_succ_le hk)]
    refine capaStep_congr hext hmem (fun s hs => ?_) (hp k hk)
    have := capa_cands (capaIterG_starts pick pr PS PP K m M delay k) s hs
    exact h s (k + 1) this.1 this.2 hk

end read

/-- **CAPA / MVCAPA**: penalised savings that agree on every interval inside `[0, n]` give the same
    scores and the same anomalies -/
theorem runCapaG_congr (pick : (Nat → α) → List Nat → Nat) (pr : α → α → Bool)
    (hext : PickExt pick) (hmem : PickMem pick)
    (PS PS' : Nat → Nat → α) (PP PP' : Nat → α) (K : α) (m M delay n : Nat) (hm : 1 ≤ m)
    (h : ∀ s e, s < e → e ≤ n → PS s e = PS' s e) (hp : ∀ t, t < n → PP t = PP' t) :
    runCapaG pick pr PS PP K m M delay n = runCapaG pick pr PS' PP' K m M delay n := by
  simp only [runCapaG]
  rw [capaIterG_congr_read hext hmem (fun s e h1 _ => h s e (lt_of_add_le hm h1)) hp n (Nat.le_refl _)]

end capa

section congrRead
variable {α : Type} [AddCommGroup α] [LinearOrder α]

/-- **CAPA / MVCAPA read admissible intervals only**: penalised savings that agree on every collective
    candidate `[s, e)` with `m ≤ e - s ≤ M`, `e ≤ n`, and on every point `t < n`, give the same scores and
    the same anomalies -/
theorem runCapaG_congr_read (pick : (Nat → α) → List Nat → Nat) (pr : α → α → Bool)
    (hext : PickExt pick) (hmem : PickMem pick)
    (PS PS' : Nat → Nat → α) (PP PP' : Nat → α) (K : α) (m M delay n : Nat) (hm : 1 ≤ m) (hmM : m ≤ M)
    (h : ∀ s e, s + m ≤ e → e ≤ s + M → e ≤ n → PS s e = PS' s e) (hp : ∀ t, t < n → PP t = PP' t) :
    runCapaG pick pr PS PP K m M delay n = runCapaG pick pr PS' PP' K m M delay n := by
  simp only [runCapaG]
  rw [capaIterG_congr_read hext hmem
    (fun s e h1 h2 => h s e h1 (h2.elim id fun he => he ▸ Nat.add_le_add_left hmM s)) hp n (Nat.le_refl _)]

end congrRead

/-! ### moving window and seeded binary segmentation -/
section det
variable [LT α] [DecidableLT α] [Zero α]

/-- **moving window** reads the cuts `(t - b, t, t + b)` with `t + b ≤ n` only -/
theorem mwScores_congr_read (cs cs' : Nat → Nat → Nat → α) (n b : Nat)
    (h : ∀ s k e, s + b = k → k + b = e → e ≤ n → cs s k e = cs' s k e) :
    mwScores cs n b 0 = mwScores cs' n b 0 := by
  funext t
  simp only [mwScores, Nat.add_zero]
  split
  · rename_i hc
    exact h _ _ _ (Nat.sub_add_cancel hc.1) rfl hc.2
  · rfl

/-- **moving window**: change scores that agree on cuts `s < k < e ≤ n` give the same score curve,
    hence the same changepoints -/
theorem mwScores_congr (cs cs' : Nat → Nat → Nat → α) (n b : Nat) (hb : 1 ≤ b)
    (h : ∀ s k e, s < k → k < e → e ≤ n → cs s k e = cs' s k e) :
    mwScores cs n b 0 = mwScores cs' n b 0 :=
  mwScores_congr_read cs cs' n b
    (fun s k e h1 h2 h3 => h s k e (lt_of_add_le hb h1.le) (lt_of_add_le hb h2.le) h3)

/-- the best split of one interval reads the cuts `(iv.1, k, iv.2)` with at least `m` rows on each side of `k`
    only -/
theorem amoc_congr_read (cs cs' : Nat → Nat → Nat → α) (m n : Nat) (iv : Nat × Nat)
    (hiv : iv.2 ≤ n) (h : ∀ s k e, s + m ≤ k → k + m ≤ e → e ≤ n → cs s k e = cs' s k e) :
    amoc cs m iv = amoc cs' m iv := by
  simp only [amoc]
  split
  · rfl
  · rename_i hcnt
    -- the scan starts on the first admissible split `iv.1 + m` and runs over `len` more, up to `iv.2 - m`
    have hlast := (amoc_count iv.1 iv.2 m).2 hcnt
    generalize iv.2 - m + 1 - (iv.1 + m) - 1 = len at hlast ⊢
    have hr : ∀ t, iv.1 + m ≤ t → t ≤ iv.1 + m + len → cs iv.1 t iv.2 = cs' iv.1 t iv.2 :=
      fun t h1 h2 => h _ _ _ h1 ((Nat.add_le_add_right h2 m).trans hlast.le) hiv
    have hmem := argmaxRange_mem (fun k => cs' iv.1 k iv.2) (iv.1 + m) len
    rw [argmaxRange_congr (fun k => cs iv.1 k iv.2) (fun k => cs' iv.1 k iv.2) _ _ hr, hr _ hmem.1 hmem.2]

/-- the best split of one interval, for scores that agree on all cuts `s < k < e ≤ n` -/
theorem amoc_congr (cs cs' : Nat → Nat → Nat → α) (m n : Nat) (hm : 1 ≤ m) (iv : Nat × Nat)
    (hiv : iv.2 ≤ n) (h : ∀ s k e, s < k → k < e → e ≤ n → cs s k e = cs' s k e) :
    amoc cs m iv = amoc cs' m iv :=
  amoc_congr_read cs cs' m n iv hiv
    (fun s k e h1 h2 h3 => h s k e (lt_of_add_le hm h1) (lt_of_add_le hm h2) h3)

/-- **seeded binary segmentation** reads the cuts `(s, k, e)` with at least `m` rows on each side of `k`,
    `e ≤ n`, only -/
theorem runSbs_congr_read (cs cs' : Nat → Nat → Nat → α) (m n : Nat) (thr : α)
    (ivs : List (Nat × Nat)) (hivs : ∀ iv ∈ ivs, iv.2 ≤ n)
    (h : ∀ s k e, s + m ≤ k → k + m ≤ e → e ≤ n → cs s k e = cs' s k e) :
    runSbs cs m thr ivs = runSbs cs' m thr ivs := by
  simp only [runSbs]
  rw [mapOpt_congr (amoc cs m) (amoc cs' m) ivs (fun iv hiv => amoc_congr_read cs cs' m n iv (hivs iv hiv) h)]

/-- **seeded binary segmentation**: change scores that agree on cuts `s < k < e ≤ n` give the same table
    and the same changepoints -/
theorem runSbs_congr (cs cs' : Nat → Nat → Nat → α) (m n : Nat) (hm : 1 ≤ m) (thr : α)
    (ivs : List (Nat × Nat)) (hivs : ∀ iv ∈ ivs, iv.2 ≤ n)
    (h : ∀ s k e, s < k → k < e → e ≤ n → cs s k e = cs' s k e) :
    runSbs cs m thr ivs = runSbs cs' m thr ivs :=
  runSbs_congr_read cs cs' m n thr ivs hivs
    (fun s k e h1 h2 h3 => h s k e (lt_of_add_le hm h1) (lt_of_add_le hm h2) h3)

end det

/-! ### circular binary segmentation -/
section cbs
variable [LT α] [DecidableLT α] [Zero α]

theorem argmaxCands_congr (f g : Nat × Nat → α) : ∀ (l : List (Nat × Nat)), (∀ c ∈ l, f c = g c) →
    argmaxCands f l = argmaxCands g l
  | [], _ => rfl
  | c :: l, h => by
    rw [argmaxCands_cons, argmaxCands_cons, scan_congr _ f g l c h, h _ (scan_mem _ g l c)]

/-- **circular binary segmentation**, hypothesis only on the cuts the detector reads: inner interval of at
    least `m` rows strictly inside the candidate, at least `m` rows around it -/
theorem runCbs_congr_read (las las' : Nat → Nat → Nat → Nat → α) (m n : Nat) (thr : α)
    (ivs : List (Nat × Nat)) (hivs : ∀ iv ∈ ivs, iv.2 ≤ n)
    (h : ∀ s i j e, s < i → i + m ≤ j → j < e → m ≤ (e - j) + (i - s) → e ≤ n → las s i j e = las' s i j e) :
    runCbs las m thr ivs = runCbs las' m thr ivs := by
  have hrows : ivs.map (cbsRow las m) = ivs.map (cbsRow las' m) := by
    apply List.map_congr_left
    intro iv hiv
    simp only [cbsRow]
    rw [argmaxCands_congr (fun c => las iv.1 c.1 c.2 iv.2) (fun c => las' iv.1 c.1 c.2 iv.2)]
    intro c hc
    obtain ⟨h1, h2, h3, h4⟩ := (mem_anomalyIntervals iv.1 iv.2 m c.1 c.2).1 hc
    exact h _ _ _ _ h1 h2 h3 h4 (hivs iv hiv)
  simp only [runCbs, hrows]

/-- **circular binary segmentation**: local anomaly scores that agree on cuts
    `s < i < j < e ≤ n` give the same table and the same anomalies -/
theorem runCbs_congr (las las' : Nat → Nat → Nat → Nat → α) (m n : Nat) (hm : 1 ≤ m) (thr : α)
    (ivs : List (Nat × Nat)) (hivs : ∀ iv ∈ ivs, iv.2 ≤ n)
    (h : ∀ s i j e, s < i → i < j → j < e → e ≤ n → las s i j e = las' s i j e) :
    runCbs las m thr ivs = runCbs las' m thr ivs :=
  runCbs_congr_read las las' m n thr ivs hivs
    (fun s i j e h1 h2 h3 _ h5 => h s i j e h1 (lt_of_add_le hm h2) h3 h5)

end cbs

end Skc
