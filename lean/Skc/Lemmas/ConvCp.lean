import Skc.Model.Conv
import Mathlib.Data.List.Basic
import Mathlib.Data.List.Range
import Mathlib.Data.List.Sort

/-! The change-detector conversions (C05): `cpD2S` reports the positions where the label differs
    from the previous one, and the segment number `segNo` steps up at each position by the number of
    changepoints there (`segNo_succ`). -/
namespace Skc

/-- strictly increasing changepoints strictly inside the data: `1 ≤ c < n` -/
def ValidCps (cps : List Nat) (n : Nat) : Prop :=
  cps.Pairwise (· < ·) ∧ ∀ c ∈ cps, 1 ≤ c ∧ c < n

/-- segment number of position `i`: the number of changepoints `≤ i` -/
def segNo (cps : List Nat) (i : Nat) : Nat := (cps.filter (· ≤ i)).length

theorem cpD2SAux_map (f : Nat → Nat) (len i : Nat) :
    cpD2SAux ((List.range' (i + 1) len).map f) (i + 1) (f i) =
      (List.range' (i + 1) len).filter (fun t => decide (f t ≠ f (t - 1))) := by
  induction len generalizing i with
  | zero => rfl
  | succ len ih =>
    rw [List.range'_succ, List.map_cons, cpD2SAux, List.filter_cons, ih (i + 1), Nat.add_sub_cancel]
    by_cases h : f (i + 1) = f i
    · rw [if_pos h, if_neg (by simpa using h)]
    · rw [if_neg h, if_pos (by simpa using h)]

theorem segNo_cons (c : Nat) (cps : List Nat) (i : Nat) :
    segNo (c :: cps) i = segNo cps i + if c ≤ i then 1 else 0 := by
  simp only [segNo, ← List.countP_eq_length_filter, List.countP_cons, decide_eq_true_eq]

/-- no order on `cps` is needed: the segment number goes up at `t + 1` by the number of
    changepoints equal to `t + 1` -/
theorem segNo_succ (cps : List Nat) (t : Nat) :
    segNo cps (t + 1) = segNo cps t + cps.count (t + 1) := by
  induction cps with
  | nil => rfl
  | cons c rest ih =>
    rw [segNo_cons, segNo_cons, ih, List.count_cons]
    simp only [beq_iff_eq]
    by_cases h : c = t + 1
    · rw [h, if_pos (Nat.le_refl _), if_neg (Nat.not_succ_le_self t), if_pos rfl]
      rfl
    · rw [if_neg h, if_congr (Nat.le_succ_iff.trans (or_iff_left h)) rfl rfl, Nat.add_right_comm]
      rfl

/-- valid changepoints are, in order, the positions of `[1, n)` that belong to them -/
theorem ValidCps.filter_mem_eq {cps : List Nat} {n : Nat} (h : ValidCps cps n) :
    (List.range' 1 (n - 1)).filter (fun t => decide (t ∈ cps)) = cps :=
  List.Pairwise.eq_of_mem_iff (List.Pairwise.filter _ List.pairwise_lt_range') h.1 fun a => by
    simp only [List.mem_filter, List.mem_range'_1, decide_eq_true_eq]
    exact ⟨fun ha => ha.2, fun ha => ⟨by have := h.2 a ha; omega, ha⟩⟩

end Skc
