import Mathlib.LinearAlgebra.Matrix.Determinant.Basic
import Mathlib.Analysis.SpecialFunctions.Log.Basic
import Mathlib.Analysis.SpecialFunctions.Trigonometric.Basic
import Mathlib.Algebra.BigOperators.Intervals
import Mathlib.Tactic.Ring
import Mathlib.Tactic.FieldSimp
import Mathlib.Tactic.Linarith
import Mathlib.Tactic.Positivity
import Skc.Lemmas.Kernels

/-! The multivariate Gaussian cost at the optimal parameters, from the rows, and its behaviour under
    shifts and positive rescalings of the data (C12).  The code computes this quantity directly with
    `np.cov` / `slogdet` (tied numerically by the C01 check); the theorems are about the definition. -/
open Finset
namespace Skc
variable {p : ℕ}

/-- mean vector of the rows `[s, e)` -/
noncomputable def meanVec (x : ℕ → Fin p → ℝ) (s e : ℕ) : Fin p → ℝ :=
  fun j => (∑ i ∈ Ico s e, x i j) / ((e : ℝ) - s)

/-- sample covariance matrix (population normalisation, as `np.cov(..., ddof=0)`) of the rows `[s, e)` -/
noncomputable def covMat (x : ℕ → Fin p → ℝ) (s e : ℕ) : Matrix (Fin p) (Fin p) ℝ :=
  fun j k => (∑ i ∈ Ico s e, (x i j - meanVec x s e j) * (x i k - meanVec x s e k)) / ((e : ℝ) - s)

/-- multivariate Gaussian cost at the optimal parameters: twice the negative log-likelihood -/
noncomputable def gcovCost (x : ℕ → Fin p → ℝ) (s e : ℕ) : ℝ :=
  ((e : ℝ) - s) * p * Real.log (2 * Real.pi) + ((e : ℝ) - s) * Real.log (covMat x s e).det + ((e : ℝ) - s) * p

theorem meanVec_shift (x : ℕ → Fin p → ℝ) (c : Fin p → ℝ) (s e : ℕ) (h : s < e) (j : Fin p) :
    meanVec (fun i j => x i j + c j) s e j = meanVec x s e j + c j := by
  have := segSum_shift (fun i => x i j) (c j) s e h.le
  rw [meanVec, meanVec, ← segSum, ← segSum, this, add_div, mul_div_cancel_left₀ _ (len_pos h).ne']

theorem covMat_shift (x : ℕ → Fin p → ℝ) (c : Fin p → ℝ) (s e : ℕ) (h : s < e) :
    covMat (fun i j => x i j + c j) s e = covMat x s e := by
  funext j k
  simp only [covMat, meanVec_shift x c s e h, add_sub_add_right_eq_sub]

theorem meanVec_scale (x : ℕ → Fin p → ℝ) (a : ℝ) (s e : ℕ) (j : Fin p) :
    meanVec (fun i j => a * x i j) s e j = a * meanVec x s e j := by
  simp only [meanVec, ← Finset.mul_sum, mul_div_assoc]

/-- rescaling the rows by `a` rescales a sum of products of deviations by `a²`, whatever the set of rows and the
    normaliser: the step shared by the covariance of an interval and of an arbitrary set of rows -/
theorem sum_dev_mul_scale {T : Finset ℕ} (a : ℝ) {n : ℝ} {u v : ℕ → ℝ} {mu mv : ℝ} :
    (∑ i ∈ T, (a * u i - a * mu) * (a * v i - a * mv)) / n =
      a ^ 2 * ((∑ i ∈ T, (u i - mu) * (v i - mv)) / n) := by
  simp only [← mul_sub, mul_mul_mul_comm, ← sq, ← Finset.mul_sum, mul_div_assoc]

theorem covMat_scale (x : ℕ → Fin p → ℝ) (a : ℝ) (s e : ℕ) :
    covMat (fun i j => a * x i j) s e = (a ^ 2) • covMat x s e := by
  funext j k
  simp only [covMat, meanVec_scale, Matrix.smul_apply, smul_eq_mul]
  exact sum_dev_mul_scale a

theorem log_det_smul {a : ℝ} (ha : 0 < a) (M : Matrix (Fin p) (Fin p) ℝ) (hd : 0 < M.det) :
    Real.log ((a ^ 2) • M).det = p * Real.log (a ^ 2) + Real.log M.det := by
  rw [Matrix.det_smul, Fintype.card_fin, Real.log_mul (pow_pos (pow_pos ha 2) p).ne' hd.ne', Real.log_pow]

theorem gcovCost_shift (x : ℕ → Fin p → ℝ) (c : Fin p → ℝ) (s e : ℕ) (h : s < e) :
    gcovCost (fun i j => x i j + c j) s e = gcovCost x s e := by
  simp only [gcovCost, covMat_shift x c s e h]

/-- rescaling adds a multiple of the segment length (the form in which the detectors' invariance under
    length-proportional terms takes it) -/
theorem gcovCost_scale (x : ℕ → Fin p → ℝ) (a : ℝ) (ha : 0 < a) (s e : ℕ) (hd : 0 < (covMat x s e).det) :
    gcovCost (fun i j => a * x i j) s e = gcovCost x s e + p * Real.log (a ^ 2) * ((e : ℝ) - s) := by
  rw [gcovCost, covMat_scale, log_det_smul ha _ hd, gcovCost]
  ring

/-- change score derived from the multivariate Gaussian cost -/
noncomputable def gcovChange (x : ℕ → Fin p → ℝ) (s k e : ℕ) : ℝ :=
  gcovCost x s e - gcovCost x s k - gcovCost x k e

theorem gcovChange_shift (x : ℕ → Fin p → ℝ) (c : Fin p → ℝ) (s k e : ℕ) (h1 : s < k) (h2 : k < e) :
    gcovChange (fun i j => x i j + c j) s k e = gcovChange x s k e := by
  simp only [gcovChange, gcovCost_shift x c s e (h1.trans h2), gcovCost_shift x c s k h1,
    gcovCost_shift x c k e h2]

theorem gcovChange_scale (x : ℕ → Fin p → ℝ) (a : ℝ) (ha : 0 < a) (s k e : ℕ)
    (hd : 0 < (covMat x s e).det) (hd1 : 0 < (covMat x s k).det) (hd2 : 0 < (covMat x k e).det) :
    gcovChange (fun i j => a * x i j) s k e = gcovChange x s k e := by
  simp only [gcovChange, gcovCost_scale x a ha s e hd, gcovCost_scale x a ha s k hd1,
    gcovCost_scale x a ha k e hd2]
  ring

/-! ### the same cost on an arbitrary finite set of rows (the pooled surroundings of a local anomaly score) -/

noncomputable def meanVecOn (x : ℕ → Fin p → ℝ) (T : Finset ℕ) : Fin p → ℝ :=
  fun j => (∑ i ∈ T, x i j) / (T.card : ℝ)

noncomputable def covMatOn (x : ℕ → Fin p → ℝ) (T : Finset ℕ) : Matrix (Fin p) (Fin p) ℝ :=
  fun j k => (∑ i ∈ T, (x i j - meanVecOn x T j) * (x i k - meanVecOn x T k)) / (T.card : ℝ)

noncomputable def gcovCostOn (x : ℕ → Fin p → ℝ) (T : Finset ℕ) : ℝ :=
  (T.card : ℝ) * p * Real.log (2 * Real.pi) + (T.card : ℝ) * Real.log (covMatOn x T).det + (T.card : ℝ) * p

theorem meanVecOn_scale (x : ℕ → Fin p → ℝ) (a : ℝ) (T : Finset ℕ) (j : Fin p) :
    meanVecOn (fun i j => a * x i j) T j = a * meanVecOn x T j := by
  simp only [meanVecOn, ← Finset.mul_sum, mul_div_assoc]

theorem covMatOn_scale (x : ℕ → Fin p → ℝ) (a : ℝ) (T : Finset ℕ) :
    covMatOn (fun i j => a * x i j) T = (a ^ 2) • covMatOn x T := by
  funext j k
  simp only [covMatOn, meanVecOn_scale, Matrix.smul_apply, smul_eq_mul]
  exact sum_dev_mul_scale a

theorem gcovCostOn_scale (x : ℕ → Fin p → ℝ) (a : ℝ) (ha : 0 < a) (T : Finset ℕ) (hd : 0 < (covMatOn x T).det) :
    gcovCostOn (fun i j => a * x i j) T = gcovCostOn x T + (T.card : ℝ) * p * Real.log (a ^ 2) := by
  rw [gcovCostOn, covMatOn_scale, log_det_smul ha _ hd, gcovCostOn]
  ring

/-- the rows of `[s, e)` outside `[i, j)` -/
def surround (s i j e : ℕ) : Finset ℕ := Ico s i ∪ Ico j e

theorem card_surround (s i j e : ℕ) (h1 : s ≤ i) (h2 : i ≤ j) (h3 : j ≤ e) :
    ((surround s i j e).card : ℝ) = ((i : ℝ) - s) + ((e : ℝ) - j) := by
  have hdisj : Disjoint (Ico s i) (Ico j e) :=
    (Ico_disjoint_Ico_consecutive s i e).mono_right (Ico_subset_Ico_left h2)
  rw [surround, Finset.card_union_of_disjoint hdisj, Nat.card_Ico, Nat.card_Ico, Nat.cast_add,
    Nat.cast_sub h1, Nat.cast_sub h3]

/-- local anomaly score derived from the multivariate Gaussian cost:
    `C(s,e) − C(i,j) − C(rows of [s,i) and [j,e) pooled)` -/
noncomputable def gcovLocal (x : ℕ → Fin p → ℝ) : ℕ → ℕ → ℕ → ℕ → ℝ := fun s i j e =>
  gcovCost x s e - gcovCost x i j - gcovCostOn x (surround s i j e)

theorem gcovLocal_scale (x : ℕ → Fin p → ℝ) (a : ℝ) (ha : 0 < a) (s i j e : ℕ) (h1 : s ≤ i) (h2 : i ≤ j) (h3 : j ≤ e)
    (hd : 0 < (covMat x s e).det) (hd1 : 0 < (covMat x i j).det) (hd2 : 0 < (covMatOn x (surround s i j e)).det) :
    gcovLocal (fun i j => a * x i j) s i j e = gcovLocal x s i j e := by
  simp only [gcovLocal, gcovCost_scale x a ha s e hd, gcovCost_scale x a ha i j hd1,
    gcovCostOn_scale x a ha _ hd2, card_surround s i j e h1 h2 h3]
  ring

end Skc
