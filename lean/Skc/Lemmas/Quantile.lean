import Mathlib.Data.List.Sort
import Mathlib.Data.List.Count
import Mathlib.Algebra.Order.Ring.Defs
import Mathlib.Algebra.Order.Field.Basic
import Mathlib.Tactic.Linarith
import Mathlib.Tactic.LinearCombination
import Mathlib.Tactic.Ring
import Mathlib.Tactic.NormNum
import Mathlib.Tactic.Push

/-! C15: "with the scale set to None the tuned threshold is the (1 - level) quantile of the training
    scores, so at most a fraction `level` of them exceed it."  Model of `np.quantile(x, q,
    method="higher")`: the element of the sorted scores at any index `idx` with
    `(N-1)·q ≤ idx ≤ N-1` (numpy takes `⌈(N-1)·q⌉`; float error can only increase it). -/
namespace Skc
variable {α : Type} [LinearOrder α]

/-- in a list sorted increasingly, the elements exceeding the one at `idx` all come after it -/
theorem count_gt_add_lt_of_sorted (l : List α) (hl : l.Pairwise (· ≤ ·)) (idx : Nat) (h : idx < l.length) :
    (l.filter (fun x => decide (l[idx] < x))).length + idx < l.length := by
  induction l generalizing idx with
  | nil => exact absurd h (Nat.not_lt_zero _)
  | cons a t ih =>
    obtain ⟨ha, ht⟩ := List.pairwise_cons.1 hl
    -- the head is not above `l[idx]`, so it is not counted
    cases idx with
    | zero =>
      rw [List.filter_cons_of_neg (by simp)]
      exact Nat.lt_succ_of_le (List.length_filter_le _ t)
    | succ i =>
      rw [List.filter_cons_of_neg (by simpa using ha _ (List.getElem_mem _))]
      exact Nat.succ_lt_succ (ih ht i (Nat.lt_of_succ_lt_succ h))

/-- **quantile bound** (ordered ring `K` for `level`, e.g. ℚ or ℝ): if `idx ≥ (N-1)(1-level)` then
    at most `level · N` of the `N` scores exceed the threshold `sorted[idx]`. -/
theorem tuned_threshold_exceedance {K : Type} [CommRing K] [LinearOrder K] [IsStrictOrderedRing K]
    (l : List α) (hl : l.Pairwise (· ≤ ·)) (idx : Nat) (h : idx < l.length)
    (level : K) (hlev : 0 ≤ level)
    (hidx : ((l.length : K) - 1) * (1 - level) ≤ (idx : K)) :
    ((l.filter (fun x => decide (l[idx] < x))).length : K) ≤ level * (l.length : K) := by
  have h1 := Nat.cast_le (α := K).2 (Nat.succ_le_of_lt (count_gt_add_lt_of_sorted l hl idx h))
  rw [Nat.cast_succ, Nat.cast_add] at h1
  -- `h1 : count + idx + 1 ≤ N`, so count ≤ N − 1 − idx ≤ (N − 1)·level ≤ N·level
  linear_combination h1 + hidx + hlev

end Skc
