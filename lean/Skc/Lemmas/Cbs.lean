import Skc.Model.Det
import Skc.Lemmas.Select
import Mathlib.Data.List.Basic

/-! Circular binary segmentation (C09, C04): admissible inner intervals, per-candidate argmax, and
    what "pick `i` kills candidate `j`" means on the intervals. -/
namespace Skc

/-- the model writes `range(a, b)` as `List.range' a (b - a)` -/
theorem mem_range'_sub {a b x : Nat} : x ∈ List.range' a (b - a) ↔ a ≤ x ∧ x < b := by
  rw [List.mem_range'_1]; omega

/-- **C09, admissible inner intervals**: `make_anomaly_intervals` enumerates exactly the inner
    intervals `[i, j)` of length `≥ m` strictly inside `[s, e)` that leave at least `m`
    surrounding samples. -/
theorem mem_anomalyIntervals (s e m i j : Nat) :
    (i, j) ∈ anomalyIntervals s e m ↔
      s < i ∧ i + m ≤ j ∧ j < e ∧ m ≤ (e - j) + (i - s) := by
  simp only [anomalyIntervals, List.mem_flatMap, List.mem_map, List.mem_filter, mem_range'_sub,
    decide_eq_true_eq, Prod.mk.injEq]
  -- the code tests `e - j + i - s`, which for `s < i` is `(e - j) + (i - s)`
  constructor
  · rintro ⟨i', ⟨h1, h2⟩, j', ⟨⟨h3, h4⟩, h5⟩, rfl, rfl⟩
    exact ⟨h1, h3, h4, Nat.add_sub_assoc (Nat.le_of_lt h1) _ ▸ h5⟩
  · rintro ⟨h1, h2, h3, h4⟩
    exact ⟨i, ⟨h1, by omega⟩, j, ⟨⟨h2, h3⟩, (Nat.add_sub_assoc (Nat.le_of_lt h1) _).symm ▸ h4⟩,
      rfl, rfl⟩

theorem killOverlap_eq_true {ivs inner : List (Nat × Nat)} {i j : Nat} :
    killOverlap ivs inner i j = true ↔ (ivs.getD j (0, 0)).1 < (inner.getD i (0, 0)).2 ∧
      (inner.getD i (0, 0)).1 < (ivs.getD j (0, 0)).2 := by
  simp only [killOverlap, decide_eq_true_eq]

/-- an inner interval `[a', b')` strictly inside a candidate `[s, e)` that `[a, b)` does not overlap
    is disjoint from `[a, b)` -/
theorem disjoint_of_not_overlap {s e a b a' b' : Nat} (hin : s < a' ∧ a' < b' ∧ b' < e)
    (hk : ¬ (s < b ∧ a < e)) : b ≤ a' ∨ b' ≤ a := by
  omega

theorem argmaxCands_cons {α : Type} [LT α] [DecidableLT α] (f : Nat × Nat → α) (c : Nat × Nat)
    (l : List (Nat × Nat)) :
    argmaxCands f (c :: l) = some (scan (· < ·) f l c, f (scan (· < ·) f l c)) := by
  have : ∀ (l : List (Nat × Nat)) (b : Nat × Nat),
      l.foldl (fun (b : (Nat × Nat) × α) c => if b.2 < f c then (c, f c) else b) (b, f b) =
        (scan (· < ·) f l b, f (scan (· < ·) f l b)) := by
    intro l
    induction l with
    | nil => intro b; rfl
    | cons c l ih => intro b; rw [List.foldl_cons, scan_cons]; split <;> exact ih _
  rw [argmaxCands, this]

end Skc
