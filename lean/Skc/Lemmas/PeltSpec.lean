import Skc.Lemmas.PeltInv
import Skc.Lemmas.Select
import Mathlib.Tactic.Abel
import Mathlib.Data.List.Induction
import Mathlib.Tactic.Tauto

/-! Consequences of the PELT invariant: the Bellman equation and inequalities against the full
    admissible start set on every prefix, hence `opt e` is a lower bound over every admissible
    segmentation of `[0, e)` and is attained by the segmentation that back-tracking returns. -/
namespace Skc
set_option linter.unusedSectionVars false

theorem backtrack_zero (prev : Nat → Nat) (fuel : Nat) (acc : List Nat) :
    backtrack prev fuel 0 acc = acc := by
  cases fuel <;> rfl

variable {α : Type} [AddCommGroup α] [LinearOrder α] [IsOrderedAddMonoid α]

theorem soundPick_argminL : SoundPick (α := α) argminL := ⟨argminL_mem, argminL_le⟩
theorem soundPick_argminLast : SoundPick (α := α) argminLast := ⟨argminLast_mem, argminLast_le⟩
theorem soundPrune_strict : SoundPrune (α := α) prStrict := by
  intro c b h; simp only [prStrict, decide_eq_true_eq] at h; exact le_of_lt h
/-- the policy family also holds non-strict pruning (`c ≥ b`) and no pruning at all -/
theorem soundPrune_nonstrict : SoundPrune (α := α) (fun c b => decide (b ≤ c)) := by
  intro c b h; simpa using h
theorem soundPrune_never : SoundPrune (α := α) (fun _ _ => false) := by
  intro c b h; cases h

/-! ### What the invariant says of the reported scores and back-pointers -/

variable {cost : Nat → Nat → α} {pen : α} {m delay k : Nat} {st : PeltSt α}
  (inv : Inv cost pen m delay k st) (hm : 1 ≤ m)
include inv hm

/-- a segmentation without changepoint costs `cost 0 e`: `opt 0 = -pen` cancels the penalty -/
theorem Inv.cand_zero (e : Nat) : st.opt 0 + cost 0 e + pen = cost 0 e := by
  rw [inv.opt_lt 0 hm, add_right_comm, neg_add_cancel, zero_add]

/-- the Bellman equation and the Bellman inequalities against the *full* admissible start set hold
    on every prefix `m ≤ e`; on the initial block `e < 2m` the only admissible start is `0` -/
theorem Inv.bellman {e : Nat} (h1 : m ≤ e) (h2 : e < 2 * m + k) :
    (Adm m (st.prev (e - 1)) e ∧
      st.opt e = st.opt (st.prev (e - 1)) + cost (st.prev (e - 1)) e + pen) ∧
    ∀ s, Adm m s e → st.opt e ≤ st.opt s + cost s e + pen := by
  by_cases h : 2 * m ≤ e
  · exact ⟨inv.bell_eq e h h2, inv.bell_le e h h2⟩
  · have h0 : st.opt e = st.opt 0 + cost 0 e + pen := by
      rw [inv.cand_zero hm, inv.opt_mid e h1 (Nat.lt_of_not_le h)]
    refine ⟨?_, fun s hs => ?_⟩
    · rw [inv.prev_lo (e - 1) (by omega)]
      exact ⟨Or.inl ⟨rfl, h1⟩, h0⟩
    · rw [hs.eq_zero (Nat.lt_of_not_le h), h0]

theorem Inv.prev_le {i : Nat} (hi : i + 1 < 2 * m + k) : st.prev i ≤ i := by
  by_cases hlo : i + 1 < 2 * m
  · rw [inv.prev_lo i hlo]; exact Nat.zero_le i
  · exact Nat.le_of_lt_succ ((inv.bell_eq (i + 1) (Nat.le_of_not_lt hlo) hi).1.lt hm)

/-- `opt e` is a lower bound for the penalised cost of every admissible segmentation of `[0,e)`. -/
theorem Inv.opt_le_segCost :
    ∀ cps e, e < 2 * m + k → ValidFrom m 0 cps e → st.opt e ≤ segCost cost pen 0 cps e := by
  intro cps
  induction cps using List.reverseRecOn with
  | nil =>
    intro e he hv
    have hme : m ≤ e := (Nat.zero_add m).symm.trans_le hv
    rw [segCost, ← inv.cand_zero hm e]
    exact (inv.bellman hm hme he).2 0 (Or.inl ⟨rfl, hme⟩)
  | append_singleton cs c ih =>
    intro e he hv
    obtain ⟨hv1, hce⟩ := (validFrom_snoc m 0 cs c e).1 hv
    have hmc : m ≤ c := (Nat.zero_add m).symm.trans_le (validFrom_start_le m 0 cs c hv1)
    have h1 := ih c ((lt_of_add_le hm hce).trans he) hv1
    have h2 := (inv.bellman hm (hmc.trans (Nat.le_of_add_right_le hce)) he).2 c (Or.inr ⟨hmc, hce⟩)
    rw [segCost_snoc, add_right_comm]
    exact h2.trans (add_le_add_left (add_le_add_left h1 _) _)

/-- back-tracking from prefix `e` reaches `0` through changepoints that form an admissible
    segmentation of `[0, e)` of penalised cost `opt e` -/
theorem Inv.backtrack_spec :
    ∀ e, m ≤ e → e < 2 * m + k → ∀ fuel acc, e < fuel →
      ∃ cps, backtrack st.prev fuel e acc = 0 :: (cps ++ acc) ∧
        ValidFrom m 0 cps e ∧ segCost cost pen 0 cps e = st.opt e := by
  intro e
  induction e using Nat.strong_induction_on with
  | _ e ih =>
    intro hme he fuel acc hfuel
    obtain ⟨e', rfl⟩ := Nat.exists_eq_add_one_of_ne_zero (Nat.ne_zero_of_lt (Nat.lt_of_lt_of_le hm hme))
    obtain ⟨fuel', rfl⟩ := Nat.exists_eq_add_one_of_ne_zero (Nat.ne_zero_of_lt hfuel)
    obtain ⟨hadm, heq⟩ := (inv.bellman hm hme he).1
    rw [Nat.add_sub_cancel] at hadm heq
    rw [backtrack]
    rcases hadm with ⟨h0, _⟩ | ⟨h1, h2⟩
    · -- the last segment starts at 0
      refine ⟨[], ?_, (Nat.zero_add m).trans_le hme, ?_⟩
      · rw [h0, backtrack_zero]; rfl
      · rw [heq, h0, inv.cand_zero hm, segCost]
    · have hlt : st.prev e' < e' + 1 := lt_of_add_le hm h2
      obtain ⟨cps, hb, hv, hc⟩ := ih (st.prev e') hlt h1 (hlt.trans he) fuel' (st.prev e' :: acc)
        (Nat.lt_of_lt_of_le hlt (Nat.le_of_lt_succ hfuel))
      refine ⟨cps ++ [st.prev e'], ?_, (validFrom_snoc m 0 cps _ _).2 ⟨hv, h2⟩, ?_⟩
      · rw [hb, List.append_assoc]; rfl
      · rw [segCost_snoc, hc, heq, add_right_comm]

omit inv hm in
/-- **what the recursion leaves, read off the invariant at `n`**: the back-pointers point backwards, and
    back-tracking from any prefix `m ≤ e ≤ n` yields an admissible segmentation of `[0, e)` whose penalised
    cost is `opt e`, which no admissible segmentation undercuts -/
theorem pelt_backtrack {pick : (Nat → α) → List Nat → Nat} {pr : α → α → Bool}
    (hpick : SoundPick pick) (hpr : SoundPrune pr) {n : Nat}
    (hm : 1 ≤ m) (hd : m ≤ delay + 1) (hn : 2 * m ≤ n) (hsplit : SplitIneq cost m n) :
    let st := peltIter pick pr cost pen m delay (n + 1 - 2 * m)
    (∀ i, i < n → st.prev i ≤ i) ∧
    ∀ e, m ≤ e → e ≤ n → ∃ cps, backtrack st.prev (e + 1) e [] = 0 :: cps ∧ ValidFrom m 0 cps e ∧
      segCost cost pen 0 cps e = st.opt e ∧ ∀ cps', ValidFrom m 0 cps' e → st.opt e ≤ segCost cost pen 0 cps' e := by
  have hk : 2 * m + (n + 1 - 2 * m) = n + 1 := Nat.add_sub_cancel' (Nat.le_succ_of_le hn)
  have inv := inv_all pick pr hpick hpr cost pen m delay n hm hd hsplit (n + 1 - 2 * m) hk.le
  refine ⟨fun i hi => inv.prev_le hm (hk.symm ▸ Nat.succ_lt_succ hi), fun e hme hen => ?_⟩
  have hlt : e < 2 * m + (n + 1 - 2 * m) := hk.symm ▸ Nat.lt_succ_of_le hen
  obtain ⟨cps, hb, hv, hc⟩ := inv.backtrack_spec hm e hme hlt (e + 1) [] (Nat.lt_succ_self e)
  exact ⟨cps, by rw [hb, List.append_nil], hv, hc, fun cps' => inv.opt_le_segCost hm cps' e hlt⟩

end Skc
