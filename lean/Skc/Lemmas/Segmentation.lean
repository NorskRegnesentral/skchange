import Skc.Spec.Segmentation
import Mathlib.Algebra.Ring.Basic
import Mathlib.Tactic.Abel
import Mathlib.Tactic.Ring
import Mathlib.Tactic.Tauto

/-! Facts about the segmentation vocabulary of `Skc/Spec/Segmentation.lean` (`Adm`, `ValidFrom`, `segCost`) that
    do not depend on any detector: admissible starts, appending a last changepoint, mirroring a segmentation,
    what an admissible segmentation reads of a cost table, the penalty as a separate term. -/
namespace Skc

theorem Adm.add_le {m s e : Nat} (h : Adm m s e) : s + m ≤ e := by unfold Adm at h; omega

theorem Adm.le {m s e : Nat} (h : Adm m s e) : s ≤ e := Nat.le_of_add_right_le h.add_le

theorem lt_of_add_le {m s e : Nat} (hm : 1 ≤ m) (h : s + m ≤ e) : s < e :=
  Nat.lt_of_lt_of_le (Nat.lt_add_of_pos_right hm) h

theorem Adm.lt {m s e : Nat} (hm : 1 ≤ m) (h : Adm m s e) : s < e := lt_of_add_le hm h.add_le

theorem Adm.mono {m s e e' : Nat} (h : Adm m s e) (he : e ≤ e') : Adm m s e' :=
  h.imp (And.imp_right (le_trans · he)) (And.imp_right (le_trans · he))

/-- a prefix shorter than `2m` has no room for a changepoint -/
theorem Adm.eq_zero {m s e : Nat} (h : Adm m s e) (he : e < 2 * m) : s = 0 := by
  unfold Adm at h; omega

/-- an admissible start for the prefix `2m+k` other than the newest one, `m + k`, was admissible for the
    prefix before (in the form PELT's invariant speaks of prefixes) -/
theorem Adm.pred {m k s : Nat} (h : Adm m s (2 * m + k)) (hne : s ≠ m + k) : Adm m s (2 * m + k - 1) := by
  unfold Adm at *; omega

/-! ### Appending a last changepoint -/

variable {α : Type} [AddCommGroup α]

theorem segCost_snoc (cost : Nat → Nat → α) (pen : α) (s : Nat) (cs : List Nat) (c e : Nat) :
    segCost cost pen s (cs ++ [c]) e = segCost cost pen s cs c + pen + cost c e := by
  induction cs generalizing s with
  | nil => rfl
  | cons a t ih => simp only [List.cons_append, segCost, ih, add_assoc]

theorem validFrom_snoc (m s : Nat) (cs : List Nat) (c e : Nat) :
    ValidFrom m s (cs ++ [c]) e ↔ ValidFrom m s cs c ∧ c + m ≤ e := by
  induction cs generalizing s with
  | nil => exact Iff.rfl
  | cons a t ih => exact (and_congr_right fun _ => ih a).trans and_assoc.symm

theorem validFrom_start_le (m s : Nat) (cs : List Nat) (e : Nat) (h : ValidFrom m s cs e) : s + m ≤ e := by
  induction cs generalizing s with
  | nil => exact h
  | cons a t ih => exact h.1.trans ((Nat.le_add_right a m).trans (ih a h.2))

/-! ### Mirroring a segmentation (C12) -/
section rev

/-- the changepoints of the time-reversed series: `c ↦ n - c`, in increasing order again -/
def revCps (n : Nat) (cps : List Nat) : List Nat := (cps.map (n - ·)).reverse

/-- the mirror image in `[0, n]` of an interval at least `m` long is at least `m` long -/
theorem sub_add_le_sub {m n s e : Nat} (h : s + m ≤ e) (he : e ≤ n) : n - e + m ≤ n - s := by omega

theorem validFrom_segCost_rev (cost : Nat → Nat → α) (pen : α) (m n : Nat) :
    ∀ (cps : List Nat) (s e : Nat), e ≤ n → ValidFrom m s cps e →
      ValidFrom m (n - e) (revCps n cps) (n - s) ∧
      segCost (fun a b => cost (n - b) (n - a)) pen (n - e) (revCps n cps) (n - s) = segCost cost pen s cps e := by
  intro cps
  induction cps with
  | nil =>
    intro s e he hv
    refine ⟨sub_add_le_sub hv he, ?_⟩
    show cost (n - (n - s)) (n - (n - e)) = cost s e
    rw [Nat.sub_sub_self ((Nat.le_of_add_right_le hv).trans he), Nat.sub_sub_self he]
  | cons c cs ih =>
    intro s e he ⟨hsc, hv'⟩
    have hcn : c ≤ n := (Nat.le_of_add_right_le (validFrom_start_le m c cs e hv')).trans he
    obtain ⟨ih1, ih2⟩ := ih c e he hv'
    rw [show revCps n (c :: cs) = revCps n cs ++ [n - c] by simp [revCps], validFrom_snoc,
      segCost_snoc, ih2, Nat.sub_sub_self ((Nat.le_of_add_right_le hsc).trans hcn), Nat.sub_sub_self hcn]
    exact ⟨⟨ih1, sub_add_le_sub hsc hcn⟩, by simp only [segCost]; abel⟩

end rev

/-! ### What a segmentation reads, and what it pays in penalties -/

/-- the penalised cost of an admissible segmentation only reads the table at non-empty intervals -/
theorem segCost_congr_valid {α : Type} [Add α] (cost cost' : Nat → Nat → α) (pen : α) (m : Nat) (hm : 1 ≤ m)
    (h : ∀ a b, a < b → cost a b = cost' a b) :
    ∀ (cps : List Nat) (s e : Nat), ValidFrom m s cps e →
      segCost cost pen s cps e = segCost cost' pen s cps e := by
  intro cps
  induction cps with
  | nil =>
    intro s e hv
    simp only [segCost]
    exact h s e (lt_of_add_le hm hv)
  | cons c cs ih =>
    intro s e ⟨h1, h2⟩
    simp only [segCost]
    rw [h s c (lt_of_add_le hm h1), ih c e h2]

/-- the penalised cost is the unpenalised one plus `pen` per changepoint -/
theorem segCost_eq_raw {R : Type} [CommRing R] (cost : Nat → Nat → R) (pen : R) (s : Nat) (cps : List Nat)
    (e : Nat) : segCost cost pen s cps e = segCost cost 0 s cps e + (cps.length : R) * pen := by
  induction cps generalizing s with
  | nil => simp only [segCost, List.length_nil, Nat.cast_zero, zero_mul, add_zero]
  | cons c cs ih => simp only [segCost, ih, List.length_cons]; push_cast; ring

end Skc
