import Skc.Model.Basic
import Mathlib.Order.Basic

/-! What the PELT and CAPA loops share: the functional array update, the queue that applies a
    pruning decision `delay` iterations after it was taken, and the domination argument behind
    pruning. -/
namespace Skc

@[simp] theorem upd_same {β : Type} (f : Nat → β) (i : Nat) (v : β) : upd f i v i = v := if_pos rfl

theorem upd_of_ne {β : Type} (f : Nat → β) {i k : Nat} (v : β) (h : k ≠ i) : upd f i v k = f k :=
  if_neg h

theorem upd_of_lt {β : Type} (f : Nat → β) {i k : Nat} (v : β) (h : k < i) : upd f i v k = f k :=
  upd_of_ne f v (Nat.ne_of_lt h)

/-- the candidate starts of the CAPA iteration that closes `e`: the kept ones and, once `m ≤ e`, the new
    start `e - m` -/
theorem mem_capaCands {m e s : Nat} {l : List Nat} :
    s ∈ (if m ≤ e then l ++ [e - m] else l) ↔ s ∈ l ∨ s + m = e := by
  split
  · rw [List.mem_append, List.mem_singleton]
    exact or_congr_right ⟨fun h => h ▸ Nat.sub_add_cancel ‹_›, Nat.eq_sub_of_add_eq⟩
  · exact ⟨Or.inl, fun h => h.elim id fun h' => absurd (h' ▸ Nat.le_add_left m s) ‹_›⟩

/-! ### The delay queue

`q : List (List β)` holds the sets decided but not yet applied, newest last, so `q.reverse[i]?` is
the set decided `i` iterations ago.  One iteration appends the new set and, once more than `delay`
sets wait, applies and drops the oldest.  `A i s` stands for what is known of a member `s` of the
set of age `i`. -/
section queue
variable {β : Type} {A : Nat → β → Prop} {q : List (List β)} {delay : Nat}

/-- The invariant both loops keep: the set of age `i` was decided at time `T - i`, and `G s e` says
    that `s` was found prunable at time `e`.  It survives the arrival of the set decided at
    `T' = T + 1` when `G'` (the same evidence, read off the new state) is inherited from `G` below
    time `T'`.  `k` counts the iterations done: a set of age `i` exists only once `i + 1 ≤ k`.
    (`T'` is a variable with `hT` so that each loop can state its own time: `2m+k` for PELT,
    `t + 1` for CAPA.) -/
theorem pend_push {G G' : β → Nat → Prop} {T T' k : Nat} {P : List β} (hT : T' = T + 1)
    (hq : ∀ i Q, q.reverse[i]? = some Q → ∀ s ∈ Q, i + 1 ≤ k ∧ G s (T - i))
    (hP : ∀ s ∈ P, G' s T') (hG : ∀ s e, e < T' → G s e → G' s e) :
    ∀ i Q, (q ++ [P]).reverse[i]? = some Q → ∀ s ∈ Q, i + 1 ≤ k + 1 ∧ G' s (T' - i) := by
  subst hT
  intro i Q h s hs
  rw [List.reverse_append, List.reverse_singleton, List.singleton_append] at h
  cases i with
  | zero => cases h; exact ⟨Nat.succ_le_succ (Nat.zero_le k), hP s hs⟩
  | succ j =>
    obtain ⟨hjk, hg⟩ := hq j Q h s hs
    rw [Nat.add_sub_add_right]
    exact ⟨Nat.succ_le_succ hjk, hG s _ (Nat.lt_succ_of_le (Nat.sub_le T j)) hg⟩

theorem length_push_le {P : List β} (h : q.length ≤ delay) : (q ++ [P]).length ≤ delay + 1 := by
  rw [List.length_append, List.length_singleton]; exact Nat.succ_le_succ h

/-- a start survives the pruning applied now unless it is in the set decided exactly `delay`
    iterations ago -/
theorem mem_or_due [BEq β] [LawfulBEq β] (hlen : q.length ≤ delay + 1)
    (hq : ∀ i Q, q.reverse[i]? = some Q → ∀ s ∈ Q, A i s) {l : List β} {s : β} (hs : s ∈ l) :
    s ∈ l.filter (fun s => ¬ (if q.length > delay then q.headD [] else []).contains s) ∨ A delay s := by
  by_cases hnow : s ∈ (if q.length > delay then q.headD [] else [])
  · refine Or.inr ?_
    split at hnow
    · cases q with
      | nil => cases hnow
      | cons Q t =>
        have ht : t.length = delay := Nat.le_antisymm (Nat.le_of_succ_le_succ hlen) (Nat.le_of_lt_succ ‹_›)
        exact hq delay Q (by simp [← ht]) s hnow
    · cases hnow
  · generalize (if q.length > delay then q.headD [] else []) = now at hnow ⊢
    exact Or.inl (List.mem_filter.2 ⟨hs, by simpa using hnow⟩)

theorem aged_rest (hq : ∀ i Q, q.reverse[i]? = some Q → ∀ s ∈ Q, A i s) :
    ∀ i Q, (if q.length > delay then q.tail else q).reverse[i]? = some Q → ∀ s ∈ Q, A i s := by
  intro i Q h
  split at h
  · cases q with
    | nil => exact hq i Q h
    | cons a t =>
      rw [List.tail_cons] at h
      have hi : i < t.reverse.length := (List.getElem?_eq_some_iff.1 h).1
      exact hq i Q (by rw [List.reverse_cons, List.getElem?_append_left hi]; exact h)
  · exact hq i Q h

theorem rest_length (hlen : q.length ≤ delay + 1) :
    (if q.length > delay then q.tail else q).length ≤ delay := by
  split
  · rw [List.length_tail]; exact Nat.sub_le_of_le_add hlen
  · exact Nat.le_of_not_lt ‹_›

end queue

/-- If every candidate is active or weakly beaten (`r`) by a later candidate, then every candidate
    is weakly beaten by an active one.  Candidates lie below `e`, so the chain of later candidates
    ends. -/
theorem exists_active_of_dominated {cand act : Nat → Prop} {r : Nat → Nat → Prop} (e : Nat)
    (hrefl : ∀ s, r s s) (htrans : ∀ {a b c}, r a b → r b c → r a c)
    (hlt : ∀ s, cand s → s < e)
    (h : ∀ s, cand s → act s ∨ ∃ s', s < s' ∧ cand s' ∧ r s' s) :
    ∀ s, cand s → ∃ s', act s' ∧ r s' s := by
  intro s
  induction hd : e - s using Nat.strongRecOn generalizing s with
  | _ d ih =>
    intro hs
    rcases h s hs with ha | ⟨s', hss', hs', hr⟩
    · exact ⟨s, ha, hrefl s⟩
    · obtain ⟨s'', ha, hr'⟩ :=
        ih (e - s') (hd ▸ Nat.sub_lt_sub_left (Nat.lt_trans hss' (hlt s' hs')) hss') s' rfl hs'
      exact ⟨s'', ha, htrans hr' hr⟩

end Skc
