import Skc.Lemmas.Congr
import Skc.Lemmas.PeltInv
import Mathlib.Data.Real.Basic
import Mathlib.Tactic.Linarith
import Mathlib.Tactic.Ring

/-! PELT is invariant under adding a term proportional to the segment length to the cost
    (`cost' s e = cost s e + c · (e − s)`): every admissible segmentation of `[0, t)` changes its cost by
    the same constant `c · t`, the candidate values of one iteration all move by `c · e`, so the first
    minimiser, the pruning decisions, hence the changepoints are unchanged, and the scores move by `c · t`.
    This is what makes PELT with a Gaussian cost invariant under rescaling of the data (C12): the cost of a
    segment changes by `(e − s) · log a²`. -/
namespace Skc

theorem argminFrom_shift (f : Nat → ℝ) (d : ℝ) (l : List Nat) (b : Nat) :
    argminFrom (fun s => f s + d) l b = argminFrom f l b := by
  induction l generalizing b with
  | nil => rfl
  | cons s l ih =>
    simp only [argminFrom, add_lt_add_iff_right]
    split <;> exact ih _

theorem argminL_shift (f : Nat → ℝ) (d : ℝ) (l : List Nat) :
    argminL (fun s => f s + d) l = argminL f l := by
  cases l with
  | nil => rfl
  | cons s l => exact argminFrom_shift f d l s

/-- relation between the states of the two runs after `k` iterations: same decisions; the scores of the
    processed prefixes `m ≤ j < 2m+k` moved by `c · j` (below `m` both runs hold `-pen`) -/
structure AffRel (c : ℝ) (m k : ℕ) (st st' : PeltSt ℝ) : Prop where
  prev : st'.prev = st.prev
  starts : st'.starts = st.starts
  pending : st'.pending = st.pending
  opt : ∀ j, st'.opt j = st.opt j + (if m ≤ j ∧ j < 2 * m + k then c * j else 0)
  mem : ∀ s ∈ st.starts, (s = 0 ∨ m ≤ s) ∧ s < m + k

namespace AffRel
variable {cost cost' : ℕ → ℕ → ℝ} {c pen : ℝ} {m delay k n : ℕ} {st st' : PeltSt ℝ}

/-- the candidate starts of the next iteration, the kept ones and the new one, are `0` or at least `m`,
    and at most `m + k` -/
theorem mem_cands (r : AffRel c m k st st') :
    ∀ s ∈ st.starts ++ [m + k], (s = 0 ∨ m ≤ s) ∧ s < m + (k + 1) := by
  intro s hs
  rcases List.mem_append.1 hs with h | h
  · exact ⟨(r.mem s h).1, Nat.lt_succ_of_lt (r.mem s h).2⟩
  · rw [List.mem_singleton.1 h]
    exact ⟨Or.inr (Nat.le_add_right m k), Nat.lt_succ_self _⟩

/-- the relation survives an iteration in which both runs take the same decisions and the recorded
    value moves by `c · (2m+k)` -/
theorem next (r : AffRel c m k st st') {t new : ℕ} (ht : t + 1 = 2 * m + k) (hnew : new = m + k)
    (v : ℝ) (best : ℕ) (prune : List ℕ) :
    AffRel c m (k + 1) (peltNext delay st t new v best prune)
      (peltNext delay st' t new (v + c * ((2 * m + k : ℕ) : ℝ)) best prune) := by
  subst hnew
  refine ⟨?_, ?_, ?_, fun j => ?_, fun s hs => r.mem_cands s (List.mem_filter.1 hs).1⟩
  · dsimp only [peltNext]; rw [r.prev]
  · dsimp only [peltNext]; rw [r.starts, r.pending]
  · dsimp only [peltNext]; rw [r.pending]
  · dsimp only [peltNext]
    rw [ht]
    rcases eq_or_ne j (2 * m + k) with rfl | hj
    · rw [upd_same, upd_same, if_pos ⟨by omega, Nat.lt_succ_self _⟩]
    · rw [upd_of_ne _ _ hj, upd_of_ne _ _ hj, r.opt j]
      have hiff : j < 2 * m + (k + 1) ↔ j < 2 * m + k := Nat.lt_succ_iff.trans hj.le_iff_lt
      rw [if_congr (and_congr_right' hiff) rfl rfl]

variable (hm : 1 ≤ m)
  (h : ∀ s e, s + m ≤ e → e ≤ n → cost' s e = cost s e + c * ((e : ℝ) - s))
include hm h

theorem init (hn : 2 * m ≤ n + 1) :
    AffRel c m 0 (peltInit cost pen m) (peltInit cost' pen m) := by
  refine ⟨rfl, rfl, rfl, fun j => ?_, fun s hs => ?_⟩
  · dsimp only [peltInit]
    rcases Nat.lt_or_ge j m with h1 | h1
    · rw [if_pos h1, if_pos h1, if_neg fun h' => Nat.not_le.2 h1 h'.1, add_zero]
    · rw [if_neg (Nat.not_lt.2 h1), if_neg (Nat.not_lt.2 h1)]
      rcases Nat.lt_or_ge j (2 * m) with h2 | h2
      · rw [if_pos h2, if_pos h2, if_pos ⟨h1, h2⟩, h 0 j (by omega) (Nat.le_of_lt_succ (h2.trans_le hn)),
          Nat.cast_zero, sub_zero]
      · rw [if_neg (Nat.not_lt.2 h2), if_neg (Nat.not_lt.2 h2), if_neg fun h' => Nat.not_lt.2 h2 h'.2, add_zero]
  · rw [List.mem_singleton.1 hs]
    exact ⟨Or.inl rfl, by omega⟩

/-- the candidate values of the next iteration all move by `c · (2m+k)`: the start's own score has
    moved by `c · s`, its last segment moves by `c · (2m+k - s)` -/
theorem cand (r : AffRel c m k st st') (hk : 2 * m + k ≤ n) :
    ∀ s ∈ st.starts ++ [m + k], st'.opt s + cost' s (2 * m + k) + pen =
      st.opt s + cost s (2 * m + k) + pen + c * ((2 * m + k : ℕ) : ℝ) := by
  intro s hs
  have hs' := r.mem_cands s hs
  have hopt : st'.opt s = st.opt s + c * s := by
    rw [r.opt s]
    rcases hs'.1 with rfl | hms
    · rw [if_neg (by omega), Nat.cast_zero, mul_zero]
    · rw [if_pos ⟨hms, by omega⟩]
  rw [hopt, h s (2 * m + k) (by omega) hk]
  ring

end AffRel

theorem peltIter_affine (cost cost' : ℕ → ℕ → ℝ) (c pen : ℝ) (m delay n : ℕ) (hm : 1 ≤ m)
    (h : ∀ s e, s + m ≤ e → e ≤ n → cost' s e = cost s e + c * ((e : ℝ) - s)) :
    ∀ k, 2 * m + k ≤ n + 1 →
      AffRel c m k (peltIter argminL prStrict cost pen m delay k) (peltIter argminL prStrict cost' pen m delay k) := by
  intro k
  induction k with
  | zero => exact AffRel.init hm h
  | succ k ih =>
    intro hk
    have ih := ih (Nat.le_of_succ_le hk)
    have he := pelt_end_eq hm k
    have hnew := pelt_new_eq hm k
    rw [peltIter, peltIter, peltStep_rel pickExt_argminL pickMem_argminL cost cost' pen m delay _
      (· + c * ((2 * m + k : ℕ) : ℝ)) ih.starts (by rw [he, hnew]; exact ih.cand hm h (Nat.le_of_succ_le_succ hk))
      (fun f l => argminL_shift f _ l)
      (fun a b => by simp only [prStrict, add_right_comm b, add_lt_add_iff_right])]
    -- the run on `cost` was left as `peltStep …`, which unfolds to `peltNext` of the same decisions
    exact ih.next he hnew _ _ _

end Skc
