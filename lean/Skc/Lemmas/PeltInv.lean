import Skc.Model.Pelt
import Skc.Lemmas.Pruning
import Skc.Lemmas.Segmentation
import Mathlib.Algebra.Order.Group.Defs
import Mathlib.Order.Basic

/-! The invariant of the PELT main loop and its preservation (C02).  Proved for every selector
    `pick` that returns a minimiser, every pruning test `pr` that only selects starts whose
    candidate value is at least the bound, every `delay ≥ m - 1`. -/
namespace Skc
set_option linter.unusedSectionVars false

/-- the state after an iteration at prefix `t + 1` that admits the start `new`, records the value `v`
    and the back-pointer `best` and decides to prune `prune` -/
def peltNext {α : Type} (delay : Nat) (st : PeltSt α) (t new : Nat) (v : α) (best : Nat) (prune : List Nat) :
    PeltSt α :=
  let starts := st.starts ++ [new]
  let pending := st.pending ++ [prune]
  let now := if pending.length > delay then pending.headD [] else []
  { opt := upd st.opt (t + 1) v
    prev := upd st.prev t best
    starts := starts.filter (fun s => ¬ now.contains s)
    pending := if pending.length > delay then pending.tail else pending }

/-- iteration `k` of the loop runs at row `2m - 1 + k`: it scores the prefix of length `2m + k` … -/
theorem pelt_end_eq {m : Nat} (hm : 1 ≤ m) (k : Nat) : 2 * m - 1 + k + 1 = 2 * m + k := by omega

/-- … and admits the start `m + k` -/
theorem pelt_new_eq {m : Nat} (hm : 1 ≤ m) (k : Nat) : 2 * m - 1 + k - (m - 1) = m + k := by omega

variable {α : Type} [AddCommGroup α] [LinearOrder α] [IsOrderedAddMonoid α]

/-- a selector is sound when it returns a member that minimises -/
def SoundPick (pick : (Nat → α) → List Nat → Nat) : Prop :=
  (∀ (f : Nat → α) (l : List Nat), l ≠ [] → pick f l ∈ l) ∧
  (∀ (f : Nat → α) (l : List Nat), ∀ x ∈ l, f (pick f l) ≤ f x)

/-- a pruning test is sound when it only fires for candidates at or above the bound -/
def SoundPrune (pr : α → α → Bool) : Prop := ∀ c b, pr c b = true → b ≤ c

/-- evidence that start `s` may be dropped for all prefixes `≥ e0 + m` -/
def Good (cost : Nat → Nat → α) (m : Nat) (opt : Nat → α) (s e0 : Nat) : Prop :=
  Adm m s e0 ∧ 2 * m ≤ e0 ∧ opt e0 ≤ opt s + cost s e0

structure Inv (cost : Nat → Nat → α) (pen : α) (m delay k : Nat) (st : PeltSt α) : Prop where
  /-- the initial block, as `run_pelt` fills it before the loop: `-pen` below `m`, … -/
  opt_lt : ∀ j, j < m → st.opt j = -pen
  /-- … one segment without changepoint on `[m, 2m)`, … -/
  opt_mid : ∀ j, m ≤ j → j < 2 * m → st.opt j = cost 0 j
  /-- … and back-pointers `0` -/
  prev_lo : ∀ j, j + 1 < 2 * m → st.prev j = 0
  /-- active starts are admissible for the last processed prefix `2m+k-1` -/
  starts_adm : ∀ s ∈ st.starts, Adm m s (2 * m + k - 1)
  /-- every admissible start is active or droppable from the next prefix on -/
  cover : ∀ s, Adm m s (2 * m + k - 1) →
      s ∈ st.starts ∨ ∃ e0, Good cost m st.opt s e0 ∧ e0 + m ≤ 2 * m + k
  /-- pending prune sets: the i-th newest was decided at prefix `2m+k-1-i` -/
  pend : ∀ i P, st.pending.reverse[i]? = some P → ∀ s ∈ P, i + 1 ≤ k ∧ Good cost m st.opt s (2 * m + k - 1 - i)
  /-- a decision waits at most `delay` iterations -/
  pend_len : st.pending.length ≤ delay
  /-- Bellman equation on processed prefixes: the back-pointer attains `opt e` … -/
  bell_eq : ∀ e, 2 * m ≤ e → e < 2 * m + k →
      Adm m (st.prev (e - 1)) e ∧ st.opt e = st.opt (st.prev (e - 1)) + cost (st.prev (e - 1)) e + pen
  /-- … and no admissible start, pruned or not, does better -/
  bell_le : ∀ e, 2 * m ≤ e → e < 2 * m + k → ∀ s, Adm m s e → st.opt e ≤ st.opt s + cost s e + pen

/-- the evidence only reads `opt` up to its decision time -/
theorem Good.upd {cost : Nat → Nat → α} {m s e0 e : Nat} {opt : Nat → α}
    (h : Good cost m opt s e0) (he : e0 < e) (v : α) : Good cost m (upd opt e v) s e0 :=
  ⟨h.1, h.2.1, by rw [upd_of_lt _ _ he, upd_of_lt _ _ (Nat.lt_of_le_of_lt h.1.le he)]; exact h.2.2⟩

theorem inv_init (cost : Nat → Nat → α) (pen : α) (m delay : Nat) (hm : 1 ≤ m) :
    Inv cost pen m delay 0 (peltInit cost pen m) := by
  refine ⟨?_, ?_, ?_, ?_, ?_, ?_, ?_, ?_, ?_⟩
  · exact fun j hj => if_pos hj
  · exact fun j h1 h2 => (if_neg (Nat.not_lt.2 h1)).trans (if_pos h2)
  · exact fun j _ => rfl
  · intro s hs
    rw [List.mem_singleton.1 hs]
    exact Or.inl ⟨rfl, by omega⟩
  · intro s hs
    exact Or.inl (List.mem_singleton.2 (hs.eq_zero (Nat.sub_lt (Nat.mul_pos Nat.two_pos hm) Nat.one_pos)))
  · intro i P h; cases h
  · exact Nat.zero_le _
  · intro e h1 h2; exact absurd h2 (Nat.not_lt.2 h1)
  · intro e h1 h2; exact absurd h2 (Nat.not_lt.2 h1)

variable {cost : Nat → Nat → α} {pen : α} {m delay k n : Nat} {st : PeltSt α}
  (inv : Inv cost pen m delay k st) (hm : 1 ≤ m) (hkn : 2 * m + k ≤ n) (hsplit : SplitIneq cost m n)
include inv hm hkn hsplit

/-- domination: with the pre-state invariant, every admissible start for the new prefix `2m+k` is
    beaten (weakly) by an active start. -/
theorem Inv.cover_le : ∀ s, Adm m s (2 * m + k) → ∃ s', s' ∈ st.starts ++ [m + k] ∧
    st.opt s' + cost s' (2 * m + k) ≤ st.opt s + cost s (2 * m + k) := by
  refine exists_active_of_dominated
    (r := fun a b => st.opt a + cost a (2 * m + k) ≤ st.opt b + cost b (2 * m + k))
    (2 * m + k) (fun _ => le_refl _) le_trans (fun s => Adm.lt hm) ?_
  intro s hs
  by_cases hnew : s = m + k
  · exact Or.inl (List.mem_append_right _ (List.mem_singleton.2 hnew))
  · rcases inv.cover s (hs.pred hnew) with hmem | ⟨e0, ⟨hadm, h2m, hle⟩, he0⟩
    · exact Or.inl (List.mem_append_left _ hmem)
    · -- `opt e0 + c(e0,T) ≤ opt s + c(s,e0) + c(e0,T) ≤ opt s + c(s,T)`
      exact Or.inr ⟨e0, hadm.lt hm, Or.inr ⟨by omega, he0⟩, (add_le_add_left hle _).trans
        ((add_assoc _ _ _).trans_le (add_le_add_right (hsplit s e0 _ hadm he0 hkn) _))⟩

/-- The invariant survives an iteration whatever minimiser `best` of the candidate values over the
    active starts is recorded and whatever set `prune` of active starts whose candidate value is at
    least the optimum `v` plus `pen` is queued for pruning.  (`t` and `new` are variables tied by `ht`,
    `hnew`, so that callers can pass the model's own `2m-1+k` and `t - (m - 1)`.) -/
theorem Inv.next (hd : m ≤ delay + 1) {t new : Nat} (ht : t + 1 = 2 * m + k) (hnew : new = m + k)
    {v : α} {best : Nat} {prune : List Nat} (hmem : best ∈ st.starts ++ [new])
    (hv : v = st.opt best + cost best (t + 1) + pen)
    (hmin : ∀ x ∈ st.starts ++ [new], v ≤ st.opt x + cost x (t + 1) + pen)
    (hprune : ∀ s ∈ prune, s ∈ st.starts ++ [new] ∧ v + pen ≤ st.opt s + cost s (t + 1) + pen) :
    Inv cost pen m delay (k + 1) (peltNext delay st t new v best prune) := by
  subst hnew
  -- `2m+k` is the prefix being closed: the bound in every field of `inv`
  rw [ht] at hv hmin hprune
  have hadm : ∀ s ∈ st.starts ++ [m + k], Adm m s (2 * m + k) := by
    intro s hs
    rcases List.mem_append.1 hs with h | h
    · exact (inv.starts_adm s h).mono (Nat.sub_le _ _)
    · rw [List.mem_singleton.1 h]; exact Or.inr (by omega)
  -- an admissible start for a prefix up to `2m+k` lies below the new entry
  have hfrA : ∀ {s e}, Adm m s e → e ≤ 2 * m + k → upd st.opt (2 * m + k) v s = st.opt s :=
    fun hs he => upd_of_lt _ _ (Nat.lt_of_lt_of_le (hs.lt hm) he)
  have hgood : ∀ s ∈ prune, Good cost m (upd st.opt (2 * m + k) v) s (2 * m + k) := by
    intro s hs
    have ha := hadm s (hprune s hs).1
    refine ⟨ha, Nat.le_add_right _ _, ?_⟩
    rw [upd_same, hfrA ha le_rfl]
    exact le_of_add_le_add_right (hprune s hs).2
  have hq := pend_push (G' := Good cost m (upd st.opt (2 * m + k) v)) (ht ▸ rfl) inv.pend hgood
    fun s e he hg => hg.upd he v
  have hlen := length_push_le (P := prune) inv.pend_len
  dsimp only [peltNext]
  rw [ht]
  constructor <;> dsimp only
  case opt_lt => intro j hj; rw [upd_of_lt _ _ (by omega)]; exact inv.opt_lt j hj
  case opt_mid => intro j h1 h2; rw [upd_of_lt _ _ (Nat.lt_add_right k h2)]; exact inv.opt_mid j h1 h2
  case prev_lo => intro j hj; rw [upd_of_lt _ _ (by omega)]; exact inv.prev_lo j hj
  case starts_adm => intro s hs; exact hadm s (List.mem_filter.1 hs).1
  case cover =>
    intro s hs
    by_cases hin : s ∈ st.starts ++ [m + k]
    · -- a start dropped now was decided `delay` iterations ago, at prefix `2m+k-delay`; `m ≤ delay + 1`
      -- is what makes that decision old enough: `(2m+k-delay) + m ≤ 2m+k+1`, the next prefix
      exact (mem_or_due hlen hq hin).imp id fun h => ⟨2 * m + k - delay, h.2, by omega⟩
    · -- never active: droppable already in the pre-state
      have hne : s ≠ m + k := fun h => hin (List.mem_append_right _ (List.mem_singleton.2 h))
      rcases inv.cover s (Adm.pred hs hne) with h | ⟨e0, hg, he0⟩
      · exact absurd (List.mem_append_left _ h) hin
      · exact Or.inr ⟨e0, hg.upd (lt_of_add_le hm he0) v, Nat.le_succ_of_le he0⟩
  case pend => exact aged_rest hq
  case pend_len => exact rest_length hlen
  case bell_eq =>
    intro e h1 h2
    rcases Nat.lt_succ_iff_lt_or_eq.1 (show e < 2 * m + k + 1 from h2) with hlt | rfl
    · obtain ⟨ha, heq⟩ := inv.bell_eq e h1 hlt
      rw [upd_of_lt _ _ (show e - 1 < t by omega), upd_of_lt _ _ hlt, hfrA ha hlt.le]
      exact ⟨ha, heq⟩
    · have hb := hadm best hmem
      rw [Nat.sub_eq_of_eq_add ht.symm, upd_same, upd_same, hfrA hb le_rfl]
      exact ⟨hb, hv⟩
  case bell_le =>
    intro e h1 h2 s hs
    rcases Nat.lt_succ_iff_lt_or_eq.1 (show e < 2 * m + k + 1 from h2) with hlt | rfl
    · rw [upd_of_lt _ _ hlt, hfrA hs hlt.le]
      exact inv.bell_le e h1 hlt s hs
    · obtain ⟨s', hs', hle⟩ := inv.cover_le hm hkn hsplit s hs
      rw [upd_same, hfrA hs le_rfl]
      exact (hmin s' hs').trans (add_le_add_left hle _)

theorem Inv.step {pick : (Nat → α) → List Nat → Nat} {pr : α → α → Bool}
    (hpick : SoundPick pick) (hpr : SoundPrune pr) (hd : m ≤ delay + 1) :
    Inv cost pen m delay (k + 1) (peltStep pick pr cost pen m delay st (2 * m - 1 + k)) :=
  inv.next hm hkn hsplit hd (pelt_end_eq hm k) (pelt_new_eq hm k)
    (hpick.1 _ _ (List.append_ne_nil_of_right_ne_nil _ (List.cons_ne_nil _ _))) rfl
    (hpick.2 (fun s => st.opt s + cost s (2 * m - 1 + k + 1) + pen) _)
    fun _ hs => ⟨(List.mem_filter.1 hs).1, hpr _ _ (List.mem_filter.1 hs).2⟩

omit inv hm hkn hsplit in
theorem inv_all (pick : (Nat → α) → List Nat → Nat) (pr : α → α → Bool)
    (hpick : SoundPick pick) (hpr : SoundPrune pr)
    (cost : Nat → Nat → α) (pen : α) (m delay n : Nat)
    (hm : 1 ≤ m) (hd : m ≤ delay + 1)
    (hsplit : SplitIneq cost m n) :
    ∀ k, 2 * m + k ≤ n + 1 → Inv cost pen m delay k (peltIter pick pr cost pen m delay k) := by
  intro k
  induction k with
  | zero => intro _; exact inv_init cost pen m delay hm
  | succ k ih =>
    intro hk
    exact (ih (Nat.le_of_succ_le hk)).step hm (Nat.le_of_succ_le_succ hk) hsplit hpick hpr hd

end Skc
