import Skc.Lemmas.PenSpec
import Mathlib.Tactic.Linarith

/-! The pruning inequality `pen(x) ≤ pen(y) + pen(z) + (alpha + Σ betas)` for savings vectors with
    `x ≤ y + z` column by column: for the two branches that sum a function of each column it is that
    function's inequality summed up; for the best selection it holds of the specification itself.
    Then the three-branch `penalise`: which branch runs (`PenOK.penalise_cases`) and how its value relates to
    the specification's (`penalise_spec`). -/
namespace Skc
set_option linter.unusedSectionVars false
variable {α : Type} [AddCommGroup α] [LinearOrder α] [IsOrderedAddMonoid α]

/-- per-column sub-additivity `x_j ≤ y_j + z_j` of three saving vectors of equal length -/
def SubAdd : List α → List α → List α → Prop
  | [], [], [] => True
  | a :: x, b :: y, c :: z => a ≤ b + c ∧ SubAdd x y z
  | _, _, _ => False

theorem subAdd_map {ι : Type} {f g h : ι → α} {l : List ι} (H : ∀ j ∈ l, f j ≤ g j + h j) :
    SubAdd (l.map f) (l.map g) (l.map h) := by
  induction l with
  | nil => trivial
  | cons j l ih => exact ⟨H j List.mem_cons_self, ih fun k hk => H k (List.mem_cons_of_mem j hk)⟩

/-- conversely, sub-additive lists are the three projections of one list of triples `(a, b, c)` with
    `a ≤ b + c`; what follows is then a fact about `List.map` (the mismatched shapes are dealt with here once) -/
theorem SubAdd.exists_triples {x y z : List α} (h : SubAdd x y z) :
    ∃ l : List (α × α × α), (∀ t ∈ l, t.1 ≤ t.2.1 + t.2.2) ∧
      x = l.map (·.1) ∧ y = l.map (·.2.1) ∧ z = l.map (·.2.2) := by
  fun_induction SubAdd x y z with
  | case1 => exact ⟨[], nofun, rfl, rfl, rfl⟩
  | case2 a x b y c z ih =>
    obtain ⟨l, hl, rfl, rfl, rfl⟩ := ih h.2
    exact ⟨(a, b, c) :: l, List.forall_mem_cons.2 ⟨h.1, hl⟩, rfl, rfl, rfl⟩
  | case3 => exact h.elim

theorem SubAdd.length {x y z : List α} (h : SubAdd x y z) : x.length = y.length ∧ x.length = z.length := by
  obtain ⟨l, -, rfl, rfl, rfl⟩ := h.exists_triples
  simp

theorem subAdd_singleton (a b c : α) : SubAdd [a] [b] [c] ↔ a ≤ b + c := by
  simp [SubAdd]

/-- savings `fixed − optimal`: the fixed-parameter cost is additive over a split and the optimal cost
    super-additive, so the saving is sub-additive -/
theorem saving_subadd {F₁ F₂ F C₁ C₂ C : α} (hadd : F₁ + F₂ = F) (hsplit : C₁ + C₂ ≤ C) :
    F - C ≤ (F₁ - C₁) + (F₂ - C₂) := by
  rw [← hadd, sub_add_sub_comm]
  exact sub_le_sub_left hsplit _

/-- sub-additivity survives a charge `b` on the whole and on each part, at the price of one `b` -/
theorem charged_subadd {a c d : α} (b : α) (h : a ≤ c + d) : a - b ≤ (c - b) + (d - b) + b := by
  rw [add_assoc, sub_add_cancel, sub_add_eq_add_sub]
  exact sub_le_sub_right h b

/-- the shape of the pruning inequality, the last step of every branch: `a = alpha` is subtracted once on
    the left and twice on the right, and the slack `B'` the branch needs is at most `B = Σ betas` -/
theorem penalised_subadd {X Y Z B' B : α} (a : α) (h : X ≤ Y + Z + B') (hB : B' ≤ B) :
    X - a ≤ (Y - a) + (Z - a) + (a + B) :=
  (sub_le_sub_right (h.trans (add_le_add_right hB _)) a).trans_eq (by abel)

/-- a per-column inequality `f a ≤ f c + f d + b` sums up, `b` once per column -/
theorem SubAdd.sum_map_le {x y z : List α} (h : SubAdd x y z) (f : α → α) (b : α)
    (hf : ∀ a c d, a ≤ c + d → f a ≤ f c + f d + b) :
    (x.map f).sum ≤ (y.map f).sum + (z.map f).sum + x.length • b := by
  obtain ⟨l, hl, rfl, rfl, rfl⟩ := h.exists_triples
  simp only [List.map_map, List.length_map]
  refine (List.sum_le_sum fun t ht => hf _ _ _ (hl t ht)).trans_eq ?_
  simp only [List.sum_map_add, List.map_const', List.sum_replicate, Function.comp_def]

theorem SubAdd.sum_le {x y z : List α} (h : SubAdd x y z) : x.sum ≤ y.sum + z.sum := by
  simpa using h.sum_map_le id 0 fun _ _ _ h => h.trans_eq (add_zero _).symm

theorem pos_subadd (b : α) (hb : 0 ≤ b) (a c d : α) (h : a ≤ c + d) : pos b a ≤ pos b c + pos b d + b := by
  rw [pos]
  split
  · exact add_nonneg (add_nonneg (pos_nonneg b c) (pos_nonneg b d)) hb
  · exact (charged_subadd b h).trans
      (add_le_add_left (add_le_add (sub_le_pos b c) (sub_le_pos b d)) b)

/-- a selection of columns of `x`, read in `y` and in `z`, is sub-additive again -/
theorem SubAdd.sublist {x y z : List α} (h : SubAdd x y z) : ∀ J : List α, J.Sublist x →
    ∃ Jy Jz : List α, Jy.Sublist y ∧ Jz.Sublist z ∧ SubAdd J Jy Jz := by
  obtain ⟨l, hl, rfl, rfl, rfl⟩ := h.exists_triples
  intro J hJ
  obtain ⟨l', hl', rfl⟩ := List.sublist_map_iff.1 hJ
  exact ⟨_, _, hl'.map _, hl'.map _, subAdd_map fun t ht => hl t (hl'.subset ht)⟩

/-- **the specification obeys the pruning inequality.**  Read the best columns of `x` in `y` and in `z`:
    their savings add up column by column, each side is at most its own best value, and the betas of the
    selection are charged twice on the right, once on the left. -/
theorem SubAdd.isBestSel_le {x y z betas : List α} {alpha vx vy vz : α} (h : SubAdd x y z)
    (hb : ∀ v ∈ betas, 0 ≤ v)
    (hx : ∃ J, J.Subperm x ∧ J ≠ [] ∧ selVal alpha betas J = vx)
    (hy : ∀ J, J.Subperm y → J ≠ [] → selVal alpha betas J ≤ vy)
    (hz : ∀ J, J.Subperm z → J ≠ [] → selVal alpha betas J ≤ vz) :
    vx ≤ vy + vz + (alpha + betas.sum) := by
  obtain ⟨J, ⟨J', hperm, hsub⟩, hne, rfl⟩ := hx
  obtain ⟨Jy, Jz, hJy, hJz, hJ⟩ := h.sublist J' hsub
  obtain ⟨ly, lz⟩ := hJ.length
  have hpos : 0 < J'.length := hperm.length_eq ▸ List.length_pos_iff.2 hne
  have hy' := hy Jy hJy.subperm (List.ne_nil_of_length_pos (ly ▸ hpos))
  have hz' := hz Jz hJz.subperm (List.ne_nil_of_length_pos (lz ▸ hpos))
  rw [selVal, ← ly] at hy'
  rw [selVal, ← lz] at hz'
  -- `J` is `J'` rearranged: same sum, same length
  rw [selVal, ← hperm.sum_eq, ← hperm.length_eq]
  exact (penalised_subadd alpha (charged_subadd _ hJ.sum_le)
      (subperm_sum_le_of_nonneg (List.take_sublist _ betas).subperm hb)).trans
    (add_le_add_left (add_le_add hy' hz') _)

/-! ### the three-branch function -/

/-- what the theorems assume about one `(alpha, betas)` pair for savings vectors of length `p`:
    non-negative terms; if the code's dense branch is taken (all betas below `eps`) the betas are
    exactly zero (betas in `(0, eps)` are approximated by the code and excluded here); otherwise
    there is one beta per component -/
structure PenOK (eps : α) (p : Nat) (alpha : α) (betas : List α) : Prop where
  alpha_nonneg : 0 ≤ alpha
  betas_nonneg : ∀ b ∈ betas, 0 ≤ b
  dense_zero : (∀ b ∈ betas, b < eps) → ∀ b ∈ betas, b = 0
  len : ¬ (∀ b ∈ betas, b < eps) → betas.length = p

/-- Which branch of `penalise_savings` runs depends on `(eps, betas)` alone, so it is the same for every
    savings vector.  Under `PenOK`: all betas zero and the plain sum; or one beta per component, and then
    either a common beta `b` with `Σ max(s − b, 0)`, or the best prefix of the sorted savings. -/
theorem PenOK.penalise_cases {eps alpha : α} {betas : List α} {p : Nat} (ok : PenOK eps p alpha betas) :
    ((∀ b ∈ betas, b = 0) ∧ ∀ sav, penalise eps sav alpha betas = sav.sum - alpha) ∨
    (betas.length = p ∧
      ((∃ b, (∀ x ∈ betas, x = b) ∧ 0 ≤ b ∧
          ∀ sav, penalise eps sav alpha betas = (sav.map (pos b)).sum - alpha) ∨
        ∀ sav, penalise eps sav alpha betas = (penGeneral sav alpha betas).2)) := by
  simp only [penalise, List.all_eq_true, decide_eq_true_eq, sumL_eq_sum]
  by_cases h1 : ∀ b ∈ betas, b < eps
  · exact Or.inl ⟨ok.dense_zero h1, fun sav => if_pos h1⟩
  · refine Or.inr ⟨ok.len h1, ?_⟩
    by_cases h2 : ∀ b ∈ betas, b = betas.headD 0
    · refine Or.inl ⟨betas.headD 0, h2, ?_, fun sav => by rw [if_neg h1, if_pos h2]; rfl⟩
      cases betas with
      | nil => exact le_refl _
      | cons c t => exact ok.betas_nonneg c List.mem_cons_self
    · exact Or.inr fun sav => by rw [if_neg h1, if_neg h2]

/-- **code against specification, one candidate**: the code's value is never below the specification's
    (the best non-empty selection of components), and where it is positive the two are equal.  Below
    `-alpha` the equal-betas branch over-estimates. -/
theorem penalise_spec {eps alpha v : α} {sav betas : List α} {p : Nat} (hp : 0 < p)
    (hlen : sav.length = p) (hs : ∀ s ∈ sav, 0 ≤ s) (ok : PenOK eps p alpha betas)
    (hv : IsBestSel sav alpha betas v) :
    v ≤ penalise eps sav alpha betas ∧
      (0 < penalise eps sav alpha betas → v = penalise eps sav alpha betas) := by
  have hne : sav ≠ [] := List.ne_nil_of_length_pos (hlen.symm ▸ hp)
  -- a branch whose value is the specification's agrees with `v` outright
  have same : ∀ w, IsBestSel sav alpha betas w → v ≤ w ∧ (0 < w → v = w) := fun w hw =>
    have e := hv.unique hw
    ⟨e.le, fun _ => e⟩
  rcases ok.penalise_cases with ⟨hz, hval⟩ | ⟨hbl, ⟨b, hb, _, hval⟩ | hval⟩ <;>
    rw [hval sav]
  · exact same _ (dense_isBest alpha hne hz hs)
  · have hbl' : betas.length = sav.length := hbl.trans hlen.symm
    refine ⟨?_, fun hpos =>
      hv.unique (equal_isBest hb hbl' (lt_of_le_of_lt (neg_nonpos.2 ok.alpha_nonneg) hpos))⟩
    obtain ⟨⟨J, hJ1, _, hJ3⟩, _⟩ := hv
    rw [← hJ3]
    exact equal_ge alpha hb hbl' hJ1
  · exact same _ (penGeneral_isBest alpha (hbl.trans hlen.symm) hne)

end Skc
