import Skc.Model.Basic
import Mathlib.Order.Basic
import Mathlib.Order.Defs.LinearOrder

/-! The selection primitives of the model (`argmin` / `argmax`, first or last optimum, over a list of
    starts, a range of positions, a list of candidates, a list of scores) are one scan; what is proved
    about them is proved of the scan. -/
namespace Skc
variable {α β : Type}

/-- keep the best candidate so far and replace it by the next candidate `c` when `R (f best) (f c)`:
    `R` is `<` (`>`) for the first maximum (minimum), `¬ >` (`¬ <`) for the last -/
def scan (R : α → α → Prop) [DecidableRel R] (f : β → α) (l : List β) (b : β) : β :=
  l.foldl (fun b c => if R (f b) (f c) then c else b) b

section scan
variable (R : α → α → Prop) [DecidableRel R] (f : β → α)

theorem scan_cons (c : β) (l : List β) (b : β) :
    scan R f (c :: l) b = scan R f l (if R (f b) (f c) then c else b) := rfl

theorem scan_mem : ∀ (l : List β) (b : β), scan R f l b ∈ b :: l
  | [], _ => List.mem_singleton.2 rfl
  | c :: l, b => by
    rw [scan_cons]
    rcases List.mem_cons.1 (scan_mem l (if R (f b) (f c) then c else b)) with h | h
    · rw [h]; split <;> simp
    · simp [h]

theorem scan_congr (g : β → α) : ∀ (l : List β) (b : β), (∀ x ∈ b :: l, f x = g x) →
    scan R f l b = scan R g l b := by
  intro l
  induction l with
  | nil => exact fun _ _ => rfl
  | cons c l ih =>
    intro b h
    rw [scan_cons, scan_cons, ← h b List.mem_cons_self,
      ← h c (List.mem_cons_of_mem _ List.mem_cons_self)]
    refine ih _ fun x hx => h x ?_
    rcases List.mem_cons.1 hx with rfl | hx
    · split <;> simp
    · simp [hx]

/-- the scan returns an optimum for any order `le` that `R` decides: `R x y → le x y` and
    `¬ R x y → le y x` -/
theorem scan_opt (le : α → α → Prop) (hrefl : ∀ x, le x x) (htrans : ∀ x y z, le x y → le y z → le x z)
    (h1 : ∀ x y, R x y → le x y) (h2 : ∀ x y, ¬ R x y → le y x) :
    ∀ (l : List β) (b : β), ∀ x ∈ b :: l, le (f x) (f (scan R f l b)) := by
  intro l
  induction l with
  | nil =>
    intro b x hx
    obtain rfl : x = b := List.mem_singleton.1 hx
    exact hrefl _
  | cons c l ih =>
    intro b x hx
    rw [scan_cons]
    have ih := ih (if R (f b) (f c) then c else b)
    have hbest : le (f b) (f (if R (f b) (f c) then c else b)) ∧
        le (f c) (f (if R (f b) (f c) then c else b)) := by
      split
      · exact ⟨h1 _ _ ‹_›, hrefl _⟩
      · exact ⟨hrefl _, h2 _ _ ‹_›⟩
    rcases List.mem_cons.1 hx with rfl | hx
    · exact htrans _ _ _ hbest.1 (ih _ List.mem_cons_self)
    · rcases List.mem_cons.1 hx with rfl | hx
      · exact htrans _ _ _ hbest.2 (ih _ List.mem_cons_self)
      · exact ih x (List.mem_cons_of_mem _ hx)

end scan

section order
variable [LinearOrder α] (f : β → α) (l : List β) (b : β)

theorem scan_lt_ge : ∀ x ∈ b :: l, f x ≤ f (scan (· < ·) f l b) :=
  scan_opt _ f (· ≤ ·) le_refl (fun _ _ _ => le_trans) (fun _ _ => le_of_lt) (fun _ _ => not_lt.1) l b

theorem scan_not_gt_ge : ∀ x ∈ b :: l, f x ≤ f (scan (fun x y => ¬ y < x) f l b) :=
  scan_opt _ f (· ≤ ·) le_refl (fun _ _ _ => le_trans) (fun _ _ => not_lt.1)
    (fun _ _ h => le_of_lt (not_not.1 h)) l b

theorem scan_gt_le : ∀ x ∈ b :: l, f (scan (· > ·) f l b) ≤ f x :=
  scan_opt _ f (· ≥ ·) le_refl (fun _ _ _ h h' => le_trans h' h) (fun _ _ => le_of_lt)
    (fun _ _ => not_lt.1) l b

theorem scan_not_lt_le : ∀ x ∈ b :: l, f (scan (fun x y => ¬ x < y) f l b) ≤ f x :=
  scan_opt _ f (· ≥ ·) le_refl (fun _ _ _ h h' => le_trans h' h) (fun _ _ => not_lt.1)
    (fun _ _ h => le_of_lt (not_not.1 h)) l b

end order

section model
variable [LT α] [DecidableLT α] (f : Nat → α)

theorem argmaxFrom_eq_scan : ∀ (l : List Nat) (b : Nat), argmaxFrom f l b = scan (· < ·) f l b
  | [], _ => rfl
  | s :: l, b => by rw [argmaxFrom, scan_cons]; split <;> exact argmaxFrom_eq_scan l _

theorem argminFrom_eq_scan : ∀ (l : List Nat) (b : Nat), argminFrom f l b = scan (· > ·) f l b
  | [], _ => rfl
  | s :: l, b => by rw [argminFrom, scan_cons]; split <;> exact argminFrom_eq_scan l _

theorem argmaxLastFrom_eq_scan : ∀ (l : List Nat) (b : Nat),
    argmaxLastFrom f l b = scan (fun x y => ¬ y < x) f l b
  | [], _ => rfl
  | s :: l, b => by rw [argmaxLastFrom, scan_cons, ite_not]; split <;> exact argmaxLastFrom_eq_scan l _

theorem argminLastFrom_eq_scan : ∀ (l : List Nat) (b : Nat),
    argminLastFrom f l b = scan (fun x y => ¬ x < y) f l b
  | [], _ => rfl
  | s :: l, b => by rw [argminLastFrom, scan_cons, ite_not]; split <;> exact argminLastFrom_eq_scan l _

theorem argmaxRange_eq_scan : ∀ (len i b : Nat),
    argmaxRange f i len b = scan (· < ·) f (List.range' i len) b
  | 0, _, _ => rfl
  | len + 1, i, b => by
    rw [argmaxRange, List.range'_succ, scan_cons]; split <;> exact argmaxRange_eq_scan len _ _

/-- `argmaxRange` is only ever started on the position before its range: it then picks from
    `[a, a + len]` -/
theorem argmaxRange_mem (a len : Nat) :
    a ≤ argmaxRange f (a + 1) len a ∧ argmaxRange f (a + 1) len a ≤ a + len := by
  have := scan_mem (· < ·) f (List.range' (a + 1) len) a
  rw [← List.range'_succ, List.mem_range'_1, ← argmaxRange_eq_scan] at this
  exact ⟨this.1, Nat.le_of_lt_succ this.2⟩

theorem argmaxRange_congr (g : Nat → α) (a len : Nat) (h : ∀ t, a ≤ t → t ≤ a + len → f t = g t) :
    argmaxRange f (a + 1) len a = argmaxRange g (a + 1) len a := by
  rw [argmaxRange_eq_scan, argmaxRange_eq_scan]
  refine scan_congr _ f g _ a fun x hx => ?_
  rw [← List.range'_succ, List.mem_range'_1] at hx
  exact h x hx.1 (Nat.le_of_lt_succ hx.2)

end model

theorem argmaxRange_ge [LinearOrder α] (f : Nat → α) (a len t : Nat) (h1 : a ≤ t) (h2 : t ≤ a + len) :
    f t ≤ f (argmaxRange f (a + 1) len a) := by
  rw [argmaxRange_eq_scan]
  exact scan_lt_ge f _ a t (by rw [← List.range'_succ, List.mem_range'_1]; exact ⟨h1, Nat.lt_succ_of_le h2⟩)

/-- a selector that looks at `f` only on the listed candidates -/
def PickExt (pick : (Nat → α) → List Nat → Nat) : Prop :=
  ∀ (f g : Nat → α) (l : List Nat), (∀ s ∈ l, f s = g s) → pick f l = pick g l

def PickMem (pick : (Nat → α) → List Nat → Nat) : Prop :=
  ∀ (f : Nat → α) (l : List Nat), l ≠ [] → pick f l ∈ l

/-- a selector that returns `0` on `[]` and otherwise the scan of the tail started on the head: the
    shape of `argminL`, `argminLast`, `argmaxL` and `argmaxLast` -/
structure HeadScan (R : α → α → Prop) [DecidableRel R] (pick : (Nat → α) → List Nat → Nat) : Prop where
  nil : ∀ f, pick f [] = 0
  cons : ∀ f l s, pick f (s :: l) = scan R f l s

namespace HeadScan
variable {R : α → α → Prop} [DecidableRel R] {pick : (Nat → α) → List Nat → Nat} (h : HeadScan R pick)
include h

theorem pickExt : PickExt pick
  | f, g, [], _ => (h.nil f).trans (h.nil g).symm
  | f, g, s :: l, hfg => by rw [h.cons, h.cons]; exact scan_congr R f g l s hfg

theorem pickMem : PickMem pick
  | _, [], hl => absurd rfl hl
  | f, s :: l, _ => by rw [h.cons]; exact scan_mem R f l s

/-- what the scan achieves from every start, the selector achieves on every list -/
theorem opt {le : α → α → Prop} (f : Nat → α)
    (hs : ∀ l b, ∀ x ∈ b :: l, le (f x) (f (scan R f l b))) : ∀ l, ∀ x ∈ l, le (f x) (f (pick f l))
  | [] => nofun
  | s :: l => by rw [h.cons]; exact hs l s

end HeadScan

section picks
variable [LT α] [DecidableLT α]

theorem headScan_argminL : HeadScan (· > ·) (argminL (α := α)) := ⟨fun _ => rfl, argminFrom_eq_scan⟩

theorem headScan_argminLast : HeadScan (fun x y => ¬ x < y) (argminLast (α := α)) :=
  ⟨fun _ => rfl, argminLastFrom_eq_scan⟩

theorem headScan_argmaxL : HeadScan (· < ·) (argmaxL (α := α)) := ⟨fun _ => rfl, argmaxFrom_eq_scan⟩

theorem headScan_argmaxLast : HeadScan (fun x y => ¬ y < x) (argmaxLast (α := α)) :=
  ⟨fun _ => rfl, argmaxLastFrom_eq_scan⟩

theorem pickExt_argminL : PickExt (α := α) argminL := headScan_argminL.pickExt

theorem pickExt_argminLast : PickExt (α := α) argminLast := headScan_argminLast.pickExt

theorem pickExt_argmaxL : PickExt (α := α) argmaxL := headScan_argmaxL.pickExt

theorem pickExt_argmaxLast : PickExt (α := α) argmaxLast := headScan_argmaxLast.pickExt

theorem pickMem_argminL : PickMem (α := α) argminL := headScan_argminL.pickMem

theorem pickMem_argmaxL : PickMem (α := α) argmaxL := headScan_argmaxL.pickMem

end picks

section optimal
variable [LinearOrder α]

theorem argminL_mem (f : Nat → α) (l : List Nat) (h : l ≠ []) : argminL f l ∈ l :=
  pickMem_argminL f l h

theorem argminL_le (f : Nat → α) (l : List Nat) : ∀ x ∈ l, f (argminL f l) ≤ f x :=
  headScan_argminL.opt (le := (· ≥ ·)) f (scan_gt_le f) l

theorem argminLast_mem (f : Nat → α) (l : List Nat) (h : l ≠ []) : argminLast f l ∈ l :=
  headScan_argminLast.pickMem f l h

theorem argminLast_le (f : Nat → α) (l : List Nat) : ∀ x ∈ l, f (argminLast f l) ≤ f x :=
  headScan_argminLast.opt (le := (· ≥ ·)) f (scan_not_lt_le f) l

theorem argmaxL_ge (f : Nat → α) (l : List Nat) : ∀ x ∈ l, f x ≤ f (argmaxL f l) :=
  headScan_argmaxL.opt f (scan_lt_ge f) l

theorem argmaxLast_mem (f : Nat → α) (l : List Nat) (h : l ≠ []) : argmaxLast f l ∈ l :=
  headScan_argmaxLast.pickMem f l h

theorem argmaxLast_ge (f : Nat → α) (l : List Nat) : ∀ x ∈ l, f x ≤ f (argmaxLast f l) :=
  headScan_argmaxLast.opt f (scan_not_gt_ge f) l

end optimal

/-! ### `np.argmax` on a list of scores -/
section argmaxList
variable [LinearOrder α]

/-- what a scan result means for the scanned list `L` -/
def ArgmaxOK (L : List α) : Option (Nat × α) → Prop
  | none => L = []
  | some (i, v) => L[i]? = some v ∧ ∀ x ∈ L, x ≤ v

/-- `argmaxIdxFrom` is the scan of the scores paired with their positions -/
theorem argmaxIdxFrom_eq_scan (l : List α) (i bi : Nat) (bv : α) :
    argmaxIdxFrom l i bi bv = (scan (· < ·) Prod.fst (l.zipIdx i) (bv, bi)).swap := by
  induction l generalizing i bi bv with
  | nil => rfl
  | cons a l ih =>
    rw [argmaxIdxFrom, List.zipIdx_cons, scan_cons]
    dsimp only
    split <;> exact ih _ _ _

/-- started on the head of `a :: t`, it returns a position of the maximum -/
theorem argmaxIdxFrom_max (a : α) (t : List α) :
    (a :: t)[(argmaxIdxFrom t 1 0 a).1]? = some (argmaxIdxFrom t 1 0 a).2 ∧
      ∀ x ∈ a :: t, x ≤ (argmaxIdxFrom t 1 0 a).2 := by
  rw [argmaxIdxFrom_eq_scan]
  refine ⟨List.mem_zipIdx_iff_getElem?.1 (scan_mem (· < ·) Prod.fst (t.zipIdx 1) (a, 0)), fun x hx => ?_⟩
  obtain ⟨k, hk⟩ := List.mem_iff_getElem?.1 hx
  exact scan_lt_ge Prod.fst (t.zipIdx 1) (a, 0) (x, k)
    (List.mem_zipIdx_iff_getElem?.2 hk : (x, k) ∈ (a :: t).zipIdx)

/-- `argmaxIdx` is the scan of `argmaxList` started on a non-empty list -/
theorem argmaxList_some (l : List α) (i bi : Nat) (bv : α) :
    argmaxList l i (some (bi, bv)) = some (argmaxIdxFrom l i bi bv) := by
  induction l generalizing i bi bv with
  | nil => rfl
  | cons a t ih => simp only [argmaxList, argmaxIdxFrom]; split <;> exact ih _ _ _

/-- `argmaxList l 0 none` is `none` only for the empty list; otherwise it returns an index holding
    the maximum. -/
theorem argmaxList_spec (l : List α) : ArgmaxOK l (argmaxList l 0 none) := by
  cases l with
  | nil => rfl
  | cons a t => rw [argmaxList, argmaxList_some]; exact argmaxIdxFrom_max a t

theorem argmaxIdx_spec (l : List α) (d : α) (hl : l ≠ []) :
    l[(argmaxIdx l d).1]? = some (argmaxIdx l d).2 ∧ ∀ x ∈ l, x ≤ (argmaxIdx l d).2 := by
  cases l with
  | nil => exact absurd rfl hl
  | cons a t => exact argmaxIdxFrom_max a t

/-- the form in which `argmaxIdx` is used: on a list whose `k`-th entry is `g k`, for `k < n` -/
theorem argmaxIdx_tabulated (l : List α) (d : α) (n : Nat) (g : Nat → α) (hn : 0 < n) (hl : l.length = n)
    (hg : ∀ k, k < n → l[k]? = some (g k)) :
    (argmaxIdx l d).1 < n ∧ (argmaxIdx l d).2 = g (argmaxIdx l d).1 ∧
      ∀ k, k < n → g k ≤ (argmaxIdx l d).2 := by
  obtain ⟨h1, h2⟩ := argmaxIdx_spec l d (List.ne_nil_of_length_pos (hl ▸ hn))
  have hi : (argmaxIdx l d).1 < n := hl ▸ (List.getElem?_eq_some_iff.1 h1).1
  refine ⟨hi, ?_, fun k hk => h2 _ (List.mem_of_getElem? (hg k hk))⟩
  rw [hg _ hi] at h1
  exact (Option.some.inj h1).symm

end argmaxList

end Skc
