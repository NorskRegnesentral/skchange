import Skc.Model.Det
import Skc.Lemmas.Select
import Mathlib.Data.List.Infix

/-! The greedy selection loop (`greedyGen`): support, coverage, independence of the picks.
    Shared by seeded binary segmentation (C07) and circular binary segmentation (C09).
    `greedyGen` runs on fuel, so the model is total; Python's `while np.any(scores > threshold)` does not end
    for a negative threshold (a zeroed score stays above it).  `greedyGen_sound` assumes `0 ≤ thr`, under
    which one round per above-threshold score is enough fuel; the prefix lemmas hold for every threshold. -/
namespace Skc
variable {α : Type} [LinearOrder α] [Zero α]

theorem killScores_length (kill : Nat → Nat → Bool) (i : Nat) :
    ∀ (l : List α) (j : Nat), (killScores kill i j l).length = l.length
  | [], _ => rfl
  | _ :: l, j => by simp [killScores, killScores_length kill i l (j + 1)]

section killScores
variable (kill : Nat → Nat → Bool) (i : Nat)

theorem killScores_getElem? (l : List α) (j k : Nat) :
    (killScores kill i j l)[k]? = (l[k]?).map (fun sc => if kill i (j + k) then 0 else sc) := by
  induction l generalizing j k with
  | nil => simp [killScores]
  | cons a l ih =>
    cases k with
    | zero => simp [killScores]
    | succ k =>
      simp only [killScores, List.getElem?_cons_succ]
      rw [ih (j + 1) k, Nat.add_right_comm, Nat.add_assoc]

/-- the scores above a threshold `≥ 0` after pick `i` are those it has not touched -/
theorem killScores_above {thr : α} (hthr : 0 ≤ thr) {cur : List α} {k : Nat} {w : α} (hw : thr < w) :
    (killScores kill i 0 cur)[k]? = some w ↔ cur[k]? = some w ∧ kill i k = false := by
  have h0 : (0 : α) ≠ w := fun h => not_lt.2 hthr (h ▸ hw)
  rw [killScores_getElem?, Nat.zero_add]
  cases cur[k]? <;> cases kill i k <;> simp [h0]

/-- a pick never raises the number of scores above a threshold `≥ 0`, and lowers it when it kills one
    of them: this is what bounds the number of rounds -/
theorem countP_killScores {thr : α} (hthr : 0 ≤ thr) (l : List α) (j : Nat) :
    (killScores kill i j l).countP (thr < ·) ≤ l.countP (thr < ·) ∧
      ∀ k v, l[k]? = some v → thr < v → kill i (j + k) = true →
        (killScores kill i j l).countP (thr < ·) < l.countP (thr < ·) := by
  induction l generalizing j with
  | nil => exact ⟨Nat.le_refl _, nofun⟩
  | cons a l ih =>
    obtain ⟨ih1, ih2⟩ := ih (j + 1)
    have h0 : ¬ thr < (0 : α) := not_lt.2 hthr
    have head : (if thr < (if kill i j then 0 else a) then 1 else 0) ≤ (if thr < a then 1 else 0) := by
      cases kill i j <;> simp [h0]
    simp only [killScores, List.countP_cons, decide_eq_true_eq]
    refine ⟨Nat.add_le_add ih1 head, fun k v hk hv hkill => ?_⟩
    cases k with
    | zero =>
      cases hk
      rw [show kill i j = true from hkill, if_pos rfl, if_neg h0, if_pos hv]
      exact Nat.lt_succ_of_le ih1
    | succ k =>
      exact Nat.add_lt_add_of_lt_of_le (ih2 k v hk hv (by rwa [Nat.add_right_comm])) head

end killScores

variable (kill : Nat → Nat → Bool)

/-- one round of the loop: it stops when no score exceeds the threshold, and otherwise picks an index
    holding the maximal score (NumPy `argmax`) and goes on with the scores that pick leaves -/
theorem greedyGen_succ (thr : α) (fuel : Nat) (cur : List α) :
    (greedyGen kill thr (fuel + 1) cur = [] ∧ ∀ x ∈ cur, ¬ thr < x) ∨
    ∃ i v, cur[i]? = some v ∧ thr < v ∧ (∀ x ∈ cur, x ≤ v) ∧
      greedyGen kill thr (fuel + 1) cur = i :: greedyGen kill thr fuel (killScores kill i 0 cur) := by
  have hspec := argmaxList_spec cur
  rw [greedyGen]
  generalize argmaxList cur 0 none = r at hspec ⊢
  obtain _ | ⟨i, v⟩ := r
  · obtain rfl : cur = [] := hspec
    exact Or.inl ⟨rfl, nofun⟩
  · obtain ⟨hiv, hmax⟩ : cur[i]? = some v ∧ ∀ x ∈ cur, x ≤ v := hspec
    by_cases hv : thr < v
    · exact Or.inr ⟨i, v, hiv, hv, hmax, if_pos hv⟩
    · exact Or.inl ⟨if_neg hv, fun x hx hlt => hv (lt_of_lt_of_le hlt (hmax x hx))⟩

/-- **the greedy loop**, for a threshold `≥ 0`, a kill relation under which every above-threshold
    candidate kills itself, and fuel for one round per above-threshold score:
    * support — every pick has a score above the threshold;
    * coverage — every candidate with a score above the threshold is killed by some pick;
    * independence — no pick is killed by an earlier pick. -/
theorem greedyGen_sound {thr : α} (hthr : 0 ≤ thr) (fuel : Nat) (cur : List α)
    (hself : ∀ i v, cur[i]? = some v → thr < v → kill i i = true) (hc : cur.countP (thr < ·) ≤ fuel) :
    (∀ i ∈ greedyGen kill thr fuel cur, ∃ v, cur[i]? = some v ∧ thr < v) ∧
    (∀ j v, cur[j]? = some v → thr < v → ∃ i ∈ greedyGen kill thr fuel cur, kill i j = true) ∧
    (greedyGen kill thr fuel cur).Pairwise (fun i i' => kill i i' = false) := by
  induction fuel generalizing cur with
  | zero =>
    have hz := List.countP_eq_zero.1 (Nat.le_zero.1 hc)
    exact ⟨List.forall_mem_nil _,
      fun j v hj hv => absurd (decide_eq_true hv) (hz v (List.mem_of_getElem? hj)), List.Pairwise.nil⟩
  | succ fuel ih =>
    rcases greedyGen_succ kill thr fuel cur with ⟨hnil, hz⟩ | ⟨i, v, hiv, hv, -, hcons⟩
    · rw [hnil]
      exact ⟨List.forall_mem_nil _, fun j v hj hv => absurd hv (hz v (List.mem_of_getElem? hj)),
        List.Pairwise.nil⟩
    · rw [hcons]
      have hkii : kill i (0 + i) = true := (Nat.zero_add i).symm ▸ hself i v hiv hv
      -- the scores the pick leaves: what is still above the threshold is untouched by `i`
      obtain ⟨ih1, ih2, ih3⟩ := ih (killScores kill i 0 cur)
        (fun k w hk hw => hself k w ((killScores_above kill i hthr hw).1 hk).1 hw)
        (Nat.le_of_lt_succ (Nat.lt_of_lt_of_le ((countP_killScores kill i hthr cur 0).2 i v hiv hv hkii) hc))
      refine ⟨?_, fun j w hj hw => ?_, List.pairwise_cons.2 ⟨fun x hx => ?_, ih3⟩⟩
      · rintro x (_ | ⟨_, hx⟩)
        · exact ⟨v, hiv, hv⟩
        · obtain ⟨w, hw1, hw2⟩ := ih1 x hx
          exact ⟨w, ((killScores_above kill i hthr hw2).1 hw1).1, hw2⟩
      · cases hkj : kill i j with
        | true => exact ⟨i, List.mem_cons_self, hkj⟩
        | false =>
          obtain ⟨x, hx1, hx2⟩ := ih2 j w ((killScores_above kill i hthr hw).2 ⟨hj, hkj⟩) hw
          exact ⟨x, List.mem_cons_of_mem _ hx1, hx2⟩
      · obtain ⟨w, hw1, hw2⟩ := ih1 x hx
        exact ((killScores_above kill i hthr hw2).1 hw1).2

/-- **threshold monotonicity**: raising the threshold can only remove picks — the pick list for
    the higher threshold is a prefix of the pick list for the lower one (any fuel, any scores,
    any kill relation: the choice of the next pick does not depend on the threshold). -/
theorem greedyGen_prefix (thr₁ thr₂ : α) (h : thr₁ ≤ thr₂) (fuel : Nat) (scores : List α) :
    greedyGen kill thr₂ fuel scores <+: greedyGen kill thr₁ fuel scores := by
  induction fuel generalizing scores with
  | zero => simp [greedyGen]
  | succ fuel ih =>
    simp only [greedyGen]
    cases hm : argmaxList scores 0 none with
    | none => simp
    | some iv =>
      by_cases h2 : thr₂ < iv.2
      · simp only [h2, lt_of_le_of_lt h h2, if_true]
        exact (List.prefix_cons_inj _).2 (ih _)
      · simp only [h2, if_false]
        exact List.nil_prefix

theorem greedyPicks_prefix (ivs : List (Nat × Nat × Nat)) (thr₁ thr₂ : α) (h : thr₁ ≤ thr₂)
    (fuel : Nat) (scores : List α) :
    greedyPicks ivs thr₂ fuel scores <+: greedyPicks ivs thr₁ fuel scores :=
  (greedyGen_prefix (killCpt ivs) thr₁ thr₂ h fuel scores).map _

theorem greedyAnoms_prefix (ivs inner : List (Nat × Nat)) (thr₁ thr₂ : α) (h : thr₁ ≤ thr₂)
    (fuel : Nat) (scores : List α) :
    greedyAnoms ivs inner thr₂ fuel scores <+: greedyAnoms ivs inner thr₁ fuel scores :=
  (greedyGen_prefix (killOverlap ivs inner) thr₁ thr₂ h fuel scores).map _

end Skc
