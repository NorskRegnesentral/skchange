import Skc.Lemmas.Segmentation
import Skc.Lemmas.Kernels

/-! Cost tables of a univariate series, from its rows: the objects the detector theorems are
    instantiated with when a statement is composed down to the data (C02, C12).  A table entry means
    something (a residual sum of squares) on non-empty intervals only, which is all an admissible
    segmentation reads (`segCost_congr_valid`). -/
open Finset
namespace Skc

/-- the squared-error cost (optimal mean) of the rows `[s, e)`, from the partial sums -/
noncomputable def l2Table (x : ℕ → ℝ) (s e : ℕ) : ℝ :=
  CF.l2Optim (segSum x s e) (segSum (fun i => x i ^ 2) s e) ((e : ℝ) - s)
/-- the Gaussian cost (optimal mean and variance, floored) of the rows `[s, e)`, from the partial sums -/
noncomputable def gaussTable (x : ℕ → ℝ) (s e : ℕ) : ℝ :=
  CF.gaussOptim (segSum x s e) (segSum (fun i => x i ^ 2) s e) ((e : ℝ) - s)

/-- the squared-error cost table satisfies the split inequality PELT's exactness needs -/
theorem l2Table_split_core (x : ℕ → ℝ) (s t e : ℕ) (hst : s < t) (hte : t < e) :
    l2Table x s t + l2Table x t e ≤ l2Table x s e :=
  l2Optim_split_le (len_pos hst) (len_pos hte) (segSum_consecutive x s t e hst.le hte.le)
    (segSum_consecutive _ s t e hst.le hte.le) (sub_add_sub_cancel' _ _ _)

theorem l2Table_split (x : ℕ → ℝ) (m n : ℕ) (hm : 1 ≤ m) : SplitIneq (l2Table x) m n := by
  intro s t e hadm hte _
  exact l2Table_split_core x s t e (hadm.lt hm) (lt_of_add_le hm hte)

/-- the table entries are the residual sums of squares around the segment means -/
theorem l2Table_eq_rss (x : ℕ → ℝ) (s e : ℕ) (h : s < e) :
    l2Table x s e = rss x (segMean x s e) s e :=
  (rss_segMean_eq_l2Optim x s e h).symm

/-- empirical variance of the rows `[s, e)` from the partial sums (before flooring) -/
noncomputable def segVar (x : ℕ → ℝ) (s e : ℕ) : ℝ :=
  segSum (fun i => x i ^ 2) s e / ((e : ℝ) - s) - (segSum x s e / ((e : ℝ) - s)) ^ 2

/-- the univariate Gaussian cost of `a · x` (`a > 0`) is that of `x` plus `(e − s) log a²`, when the empirical
    variance is at or above the floor before and after rescaling -/
theorem gaussTable_scale (x : ℕ → ℝ) (a : ℝ) (ha : 0 < a) (s e : ℕ)
    (h : varFloorConst ≤ segVar x s e ∧ varFloorConst ≤ a ^ 2 * segVar x s e) :
    gaussTable (fun i => a * x i) s e = gaussTable x s e + Real.log (a ^ 2) * ((e : ℝ) - s) := by
  rw [gaussTable, segSum_mul_left, segSum_sq_scale, gaussOptim_scale _ _ _ a ha h.1 h.2, mul_comm]
  rfl

/-- the univariate Gaussian cost table satisfies the split inequality wherever the empirical variances
    are at or above the floor (at the floor itself it can fail: the property says "above the floor") -/
theorem gaussTable_split_core (x : ℕ → ℝ) (s t e : ℕ) (hst : s < t) (hte : t < e)
    (f1 : varFloorConst ≤ segVar x s t) (f2 : varFloorConst ≤ segVar x t e)
    (f : varFloorConst ≤ segVar x s e) : gaussTable x s t + gaussTable x t e ≤ gaussTable x s e :=
  gaussOptim_split_le (len_pos hst) (len_pos hte) (segSum_consecutive x s t e hst.le hte.le)
    (segSum_consecutive _ s t e hst.le hte.le) (sub_add_sub_cancel' _ _ _) f1 f2 f

theorem gaussTable_split (x : ℕ → ℝ) (m n : ℕ) (hm : 1 ≤ m)
    (habove : ∀ s e, s + m ≤ e → e ≤ n → varFloorConst ≤ segVar x s e) :
    SplitIneq (gaussTable x) m n := by
  intro s t e hadm hte hen
  have hst := hadm.add_le
  exact gaussTable_split_core x s t e (hadm.lt hm) (lt_of_add_le hm hte) (habove s t hst (by omega))
    (habove t e hte hen) (habove s e (by omega) hen)

end Skc
