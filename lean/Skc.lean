import Skc.Basic
import Skc.Gen.KernelsFloat
import Skc.Gen.KernelsReal
import Skc.Gen.Loops
import Skc.L1.Cusum
import Skc.L1.Formulas
import Skc.L1.Gauss
import Skc.L1.L2Cost
import Skc.L1.Loops
import Skc.L1.LoopsCbs
import Skc.L1.LoopsCbsProps
import Skc.L1.LoopsMwProps
import Skc.L1.LoopsPelt
import Skc.L1.Tactic
import Skc.Lemmas.CapaInv
import Skc.Lemmas.CapaOn
import Skc.Lemmas.CapaSpec
import Skc.Lemmas.Cbs
import Skc.Lemmas.Congr
import Skc.Lemmas.Conv
import Skc.Lemmas.ConvCp
import Skc.Lemmas.ConvSub
import Skc.Lemmas.GaussCov
import Skc.Lemmas.GaussCovIneq
import Skc.Lemmas.GreedyGen
import Skc.Lemmas.Kernels
import Skc.Lemmas.MwRev
import Skc.Lemmas.PeltAffine
import Skc.Lemmas.PeltInv
import Skc.Lemmas.PeltSpec
import Skc.Lemmas.Pen
import Skc.Lemmas.PenH
import Skc.Lemmas.PenSpec
import Skc.Lemmas.Pruning
import Skc.Lemmas.Quantile
import Skc.Lemmas.Sbs
import Skc.Lemmas.SeededGrid
import Skc.Lemmas.Segmentation
import Skc.Lemmas.Select
import Skc.Lemmas.Tables
import Skc.Lemmas.Where
import Skc.Model.Anomaliser
import Skc.Model.Basic
import Skc.Model.Capa
import Skc.Model.Config
import Skc.Model.Conv
import Skc.Model.Cuts
import Skc.Model.Datagen
import Skc.Model.Det
import Skc.Model.Frame
import Skc.Model.Greedy
import Skc.Model.Hist
import Skc.Model.Pelt
import Skc.Model.Pen
import Skc.Props.C01
import Skc.Props.C02
import Skc.Props.C03
import Skc.Props.C04
import Skc.Props.C05
import Skc.Props.C06
import Skc.Props.C07
import Skc.Props.C08
import Skc.Props.C09
import Skc.Props.C10
import Skc.Props.C11
import Skc.Props.C12
import Skc.Props.C13
import Skc.Props.C14
import Skc.Props.C15
import Skc.Props.C16
import Skc.Props.C17
import Skc.Props.C18
import Skc.Spec.Anomalies
import Skc.Spec.Kernels
import Skc.Spec.Segmentation
